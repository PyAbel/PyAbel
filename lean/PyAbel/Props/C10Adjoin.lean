/-
C10 — piecewise classes: the domains of the pieces are half-open, `r_min ≤ r < r_max`, so adjoining pieces tile — a sample on the
common limit belongs to the outer piece only — and the Abel transform of the whole is the sum of the transforms of the pieces
(`PiecewisePolynomial` / `PiecewiseSPolynomial` add up `func` and `abel` of their pieces; with `polynomial_abel` /
`spolynomial_term_abel` for each piece this is the transform of the piecewise function).
-/
import PyAbel.Lemmas.AbelLinear
import Mathlib.Order.Interval.Set.Disjoint
open PyAbel Set MeasureTheory
namespace PyAbel.C10Adjoin

/-- the half-open domains of adjoining pieces tile: `[a, b)` and `[b, c)` are `[a, c)`, no sample is counted twice or dropped -/
theorem pieces_adjoin (g : ℝ → ℝ) (a b c : ℝ) (hab : a ≤ b) (hbc : b ≤ c) (r : ℝ) :
    indicator (Ico a b) g r + indicator (Ico b c) g r = indicator (Ico a c) g r := by
  rw [← Ico_union_Ico_eq_Ico hab hbc, indicator_union_of_disjoint Ico_disjoint_Ico_same]

/-- … and so do their Abel transforms: the transform of the piece over `[a, c)` is the sum of those over `[a, b)` and `[b, c)` -/
theorem abel_pieces_adjoin (g : ℝ → ℝ) (a b c x : ℝ) (ha : 0 ≤ a) (hab : a ≤ b) (hbc : b ≤ c)
    (hg : Continuous fun z => g (los x z)) :
    Abel (indicator (Ico a c) g) x = Abel (indicator (Ico a b) g) x + Abel (indicator (Ico b c) g) x := by
  rw [← abel_add (losInt_indicator_Ico ha hab hg) (losInt_indicator_Ico (ha.trans hab) hbc hg)]
  congr 1; funext r; exact (pieces_adjoin g a b c hab hbc r).symm

end PyAbel.C10Adjoin
