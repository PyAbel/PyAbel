/-
C07 — the in-memory caches of `abel.daun.get_bs_cached` (Model/DaunCache.lean): after any history of calls and clean-ups, a call hands out
the matrix the request names — the basis, the unregularised transform matrix or the regularised one, of the requested degree, built from a
basis that covers the requested size (exactly that size for the cubic splines), with the requested regulariser and strength.
-/
import PyAbel.Model.DaunCache

namespace PyAbel.C07D
open PyAbel.DaunCache

variable {R S : Type} [DecidableEq R] [DecidableEq S]

/-- what is in `_tr` was made from the basis in `_bs`, and `_tr_prm` names it -/
def Inv (zero : S → Bool) (st : St R S) : Prop :=
  (st.tr = none ∧ st.trPrm = none)
  ∨ (∃ sz dg m k, st.bs = some (sz, dg) ∧ st.tr = some (.full sz dg) ∧ st.trPrm = some (m, k, none))
  ∨ (∃ sz dg n r s, st.bs = some (sz, dg) ∧ st.tr = some (.reg sz dg n r s) ∧ st.trPrm = some (n, .lin r, some s) ∧ zero s = false)

omit [DecidableEq R] [DecidableEq S] in
theorem inv_init (zero : S → Bool) : Inv zero (St.init : St R S) := Or.inl ⟨rfl, rfl⟩

/-- the request is served by a basis of the requested degree that covers the requested size -/
def covers (sz dg : Nat) (q : Req R S) : Prop := dg = q.deg ∧ q.n ≤ sz ∧ (q.deg = 3 → sz = q.n)

theorem bsOK_covers (sz dg n deg : Nat) (h : bsOK (some (sz, dg)) n deg = true) : dg = deg ∧ n ≤ sz ∧ (deg = 3 → sz = n) := by
  unfold bsOK at h
  simp only [Bool.and_eq_true, beq_iff_eq] at h
  obtain ⟨h1, h2⟩ := h
  by_cases h3 : deg = 3
  · rw [if_pos h3] at h2; simp only [beq_iff_eq] at h2; exact ⟨h1, Nat.le_of_eq h2.symm, fun _ => h2⟩
  · rw [if_neg h3] at h2; simp only [decide_eq_true_eq] at h2; exact ⟨h1, h2, fun h => absurd h h3⟩

/-- one call: the invariant is kept and the matrix handed out is the requested one -/
theorem call_spec (zero : S → Bool) (st : St R S) (q : Req R S) (h : Inv zero st) :
    Inv zero (call zero st q).1 ∧
    (match (call zero st q).2 with
     | .basis sz dg n => (q.forward = true ∨ q.kind = .nonneg) ∧ n = q.n ∧ covers sz dg q
     | .full sz dg n => q.forward = false ∧ (q.kind = .none ∨ ∃ r, q.kind = .lin r ∧ zero q.s = true) ∧ n = q.n ∧ covers sz dg q
     | .reg sz dg n r s => q.forward = false ∧ q.kind = .lin r ∧ s = q.s ∧ zero q.s = false ∧ n = q.n ∧ covers sz dg q
     | .raise => False) := by
  unfold call
  extract_lets s1 isZero stale
  -- the first statement keeps the invariant and leaves a basis that serves the request
  have h1 : Inv zero s1 ∧ ∃ sz dg, s1.bs = some (sz, dg) ∧ covers sz dg q := by
    unfold s1; split
    · rename_i hok
      refine ⟨h, ?_⟩
      match st.bs, hok with
      | some (sz, dg), hok => exact ⟨sz, dg, rfl, bsOK_covers sz dg _ _ hok⟩
    · exact ⟨.inl ⟨rfl, rfl⟩, q.n, q.deg, rfl, rfl, Nat.le_refl _, fun _ => rfl⟩
  obtain ⟨sz, dg, hbs, hcov⟩ := h1.2
  -- the arm for no basis goes; `-zeta` keeps the `let`s that follow
  rw [hbs]
  dsimp -zeta only
  extract_lets s2
  by_cases hb : (q.forward || decide (q.kind = .nonneg)) = true
  · rw [if_pos hb]
    exact ⟨h1.1, by simpa using hb, rfl, hcov⟩
  rw [if_neg hb]
  obtain ⟨hf, hk⟩ : q.forward = false ∧ q.kind ≠ .nonneg := by simpa using hb
  by_cases hz : isZero = true
  · -- strength 0: `_tr` is rebuilt unless it is the unregularised matrix of the basis in memory
    rw [if_pos hz]
    have h2 : Inv zero s2 ∧ s2.tr = some (.full sz dg) := by
      have new : Inv zero ⟨some (sz, dg), some (.full sz dg), some (sz, q.kind, none)⟩ := .inr (.inl ⟨sz, dg, sz, q.kind, rfl, rfl, rfl⟩)
      unfold s2 stale
      rcases h1.1 with ⟨ht, hp⟩ | ⟨a, b, m, k, hb', ht, hp⟩ | ⟨a, b, n', r, s', hb', ht, hp, hz'⟩
      · rw [ht]; exact ⟨new, rfl⟩
      · rw [hbs] at hb'; cases hb'
        rw [ht, hp]; exact ⟨h1.1, ht⟩
      · rw [ht, hp]; simp only [hz', Bool.not_false, if_true, and_true]; exact new
    rw [h2.2]
    refine ⟨h2.1, hf, ?_, rfl, hcov⟩
    unfold isZero at hz
    cases hk' : q.kind with
    | none => exact .inl rfl
    | nonneg => exact absurd hk' hk
    | lin r => rw [hk'] at hz; exact .inr ⟨r, rfl, hz⟩
  · rw [if_neg hz]
    unfold isZero at hz
    cases hk' : q.kind with
    | none => rw [hk'] at hz; exact absurd rfl hz
    | nonneg => exact absurd hk' hk
    | lin r =>
      rw [hk'] at hz
      have hz : zero q.s = false := Bool.eq_false_iff.2 hz
      dsimp only
      by_cases hp : s1.trPrm = some (q.n, .lin r, some q.s)
      · -- hit: by the invariant `_tr_prm` names what is in `_tr`
        rw [if_pos hp]
        rcases h1.1 with ⟨_, hp'⟩ | ⟨a, b, m, k, _, _, hp'⟩ | ⟨a, b, n', r', s', hb', ht, hp', hz'⟩
        · rw [hp] at hp'; cases hp'
        · rw [hp] at hp'; cases hp'
        · rw [hbs] at hb'; cases hb'
          rw [hp] at hp'; cases hp'
          rw [ht]
          exact ⟨h1.1, hf, rfl, rfl, hz, rfl, hcov⟩
      · rw [if_neg hp]
        exact ⟨.inr (.inr ⟨sz, dg, q.n, r, q.s, rfl, rfl, rfl, hz⟩), hf, rfl, rfl, hz, rfl, hcov⟩
omit [DecidableEq R] [DecidableEq S] in
theorem inv_cleanup (zero : S → Bool) (st : St R S) (sel : Select) (_h : Inv zero st) : Inv zero (cleanup st sel) := by
  cases sel <;> exact Or.inl ⟨rfl, rfl⟩

theorem inv_step (zero : S → Bool) (st : St R S) (op : Op R S) (h : Inv zero st) : Inv zero (step zero st op) := by
  cases op with
  | call q => exact (call_spec zero st q h).1
  | cleanup sel => exact inv_cleanup zero st sel h

theorem inv_run (zero : S → Bool) (st : St R S) (ops : List (Op R S)) (h : Inv zero st) : Inv zero (run zero st ops) :=
  List.foldlRecOn ops _ h fun st hs op _ => inv_step zero st op hs

/-- **after any history** of calls and clean-ups, a call hands out the matrix its request names, made from a basis of the requested degree
    that covers the requested size — never a matrix left over from another degree, size, regulariser or strength -/
theorem call_returns_requested (zero : S → Bool) (ops : List (Op R S)) (q : Req R S) :
    match (call zero (run zero (St.init : St R S) ops) q).2 with
    | .basis sz dg n => (q.forward = true ∨ q.kind = .nonneg) ∧ n = q.n ∧ covers sz dg q
    | .full sz dg n => q.forward = false ∧ (q.kind = .none ∨ ∃ r, q.kind = .lin r ∧ zero q.s = true) ∧ n = q.n ∧ covers sz dg q
    | .reg sz dg n r s => q.forward = false ∧ q.kind = .lin r ∧ s = q.s ∧ zero q.s = false ∧ n = q.n ∧ covers sz dg q
    | .raise => False :=
  (call_spec zero _ q (inv_run zero _ ops (inv_init zero))).2

/-! non-vacuity on a concrete instance: regulariser names and strengths are numbers, strength 0 is zero -/
section
/-- a regularised call, then no regularisation with the same size and degree: the unregularised matrix is rebuilt -/
example :
    let z : Nat → Bool := fun s => s == 0
    let s1 := (call z (St.init : St Nat Nat) ⟨9, 3, .lin 1, 5, false⟩).1
    (call z s1 ⟨9, 3, .none, 0, false⟩).2 = .full 9 3 9 := by decide

/-- L2 then L2c with the same strength are different requests -/
example :
    let z : Nat → Bool := fun s => s == 0
    let s1 := (call z (St.init : St Nat Nat) ⟨9, 1, .lin 1, 5, false⟩).1
    (call z s1 ⟨9, 1, .lin 2, 5, false⟩).2 = .reg 9 1 9 2 5 := by decide

/-- a smaller size of degree 1 is served from the cached larger basis, of degree 3 it is not -/
example :
    let z : Nat → Bool := fun s => s == 0
    let s1 := (call z (St.init : St Nat Nat) ⟨12, 1, .none, 0, true⟩).1
    let s3 := (call z (St.init : St Nat Nat) ⟨12, 3, .none, 0, true⟩).1
    (call z s1 ⟨9, 1, .none, 0, true⟩).2 = .basis 12 1 9 ∧ (call z s3 ⟨9, 3, .none, 0, true⟩).2 = .basis 9 3 9 := by decide
end
end PyAbel.C07D
