/-
C09 — the two-point deconvolution operator (abel/dasch.py `_bs_two_point`, Dasch Eqs. (8), (9)) is an exact inverse Abel integral:
applied to any samples it gives, at every pixel, the inverse Abel integral of their interpolant — piecewise linear between the samples
(continued linearly to zero beyond the last one), and on the axis row the even parabola on the first interval that Dasch's special cases
`D[0,0] = 2/π`, `D[0,1] = J(0,1) − 2/π` stand for.

The inverse Abel integral `−(1/π) ∫_r^∞ P′(x) dx/√(x² − r²)` is taken along the line of sight (`x = √(r² + t²)`), where it is
`−(1/π) ∫₀^∞ P′(ρ)/ρ dt` and has no singularity (`invAbel_eq_textbook`, at the end, proves the two forms equal); the logarithms of Eq. (9) are the integrals of `1/ρ` over the shells
(`Lemmas/AbelFrac.lean`, `Fint_one`).
-/
import PyAbel.Lemmas.AbelFrac
import PyAbel.Lemmas.RealInst
import PyAbel.Model.Dasch
import Mathlib.Analysis.SpecialFunctions.Integrals.Basic
import Mathlib.MeasureTheory.Function.JacobianOneDim
open MeasureTheory Set

namespace PyAbel.C09
open PyAbel

/-- the inverse Abel integral `−(1/π) ∫_r^∞ P′(x) dx / √(x² − r²)` written along the line of sight (`x = √(r² + t²)`,
    `dx/√(x² − r²) = dt/x`): `−(1/π) ∫₀^∞ P′(ρ)/ρ dt`, `ρ = √(r² + t²)`; the factor is `1/(2π)` because `Abel` carries the 2 -/
noncomputable def invAbel (dP : ℝ → ℝ) (r : ℝ) : ℝ := -(1 / (2 * Real.pi)) * Abel (fun ρ => dP ρ / ρ) r

theorem indicator_one_mul' (s : Set ℝ) (g : ℝ → ℝ) (ρ : ℝ) : indicator s 1 ρ * g ρ = indicator s g ρ := by
  rw [← indicator_mul_left]
  simp only [Pi.one_apply, one_mul]

/-- line-of-sight integral of `1/ρ` over a shell: the logarithms of Dasch Eq. (9) -/
theorem abel_shell_inv (a b x : ℝ) (hx : 0 < x) (ha : 0 ≤ a) (hab : a ≤ b) :
    Abel (indicator (Ico a b) (fun ρ => 1 / ρ)) x
      = 2 * (Real.log (hc (b ^ 2 - x ^ 2) + los x (hc (b ^ 2 - x ^ 2))) - Real.log (hc (a ^ 2 - x ^ 2) + los x (hc (a ^ 2 - x ^ 2)))) := by
  have e : ∀ z, (1 : ℝ) / los x z = (1 / x) * fr x z ^ (1 : ℤ) := fun z => by
    rw [zpow_one, fr, div_mul_div_cancel₀ hx.ne']
  have h1 : ∀ z, Fz x 1 z = Fint x 1 z := Fz_natCast x 1
  rw [abel_indicator_Ico _ x ha hab]
  congr 1
  simp only [e]
  rw [intervalIntegral.integral_const_mul, ← Fz_sub hx 1, h1, h1,
    Fint_one hx _ (hc_nonneg _), Fint_one hx _ (hc_nonneg _), ← mul_sub, ← mul_assoc, one_div_mul_cancel hx.ne', one_mul,
    sub_sub_sub_cancel_right]

theorem losInt_shellFun (g : ℝ → ℝ) (a b x : ℝ) (ha : 0 ≤ a) (hab : a ≤ b) (hg : Continuous fun z => g (los x z)) :
    LosInt (indicator (Ico a b) g) x :=
  losInt_indicator_Ico ha hab hg

theorem losInt_shell_inv (a b x : ℝ) (hx : 0 < x) (ha : 0 ≤ a) (hab : a ≤ b) : LosInt (indicator (Ico a b) (fun ρ => 1 / ρ)) x := by
  apply losInt_shellFun _ a b x ha hab
  have hl := los_continuous x
  exact continuous_const.div hl (fun z => (los_pos_of_pos hx z).ne')

section
variable {a b x : ℝ}

/-- … and a shell away from the axis also along the line of sight through the centre -/
theorem losInt_shell_inv_of_pos (hx : 0 ≤ x) (ha : 0 < a) (hab : a ≤ b) : LosInt (indicator (Ico a b) (fun ρ => 1 / ρ)) x := by
  rcases hx.eq_or_lt with rfl | hx
  · exact losInt_indicator_Ico_axis _ (continuousOn_const.div continuousOn_id fun z hz => (ha.trans_le hz.1).ne')
  · exact losInt_shell_inv a b x hx ha.le hab

theorem sqrt_add_pos (hb : 0 < b) : 0 < Real.sqrt (b ^ 2 - x ^ 2) + b :=
  add_pos_of_nonneg_of_pos (Real.sqrt_nonneg _) hb

/-- the shell lies outside the line of sight (which may pass through the centre: there `ρ = z` and `√(b² − 0²) + b = 2 b`) -/
theorem abel_shell_inv_outer (hx : 0 ≤ x) (ha : 0 < a) (hxa : x ≤ a) (hab : a ≤ b) :
    Abel (indicator (Ico a b) (fun ρ => 1 / ρ)) x
      = 2 * Real.log ((Real.sqrt (b ^ 2 - x ^ 2) + b) / (Real.sqrt (a ^ 2 - x ^ 2) + a)) := by
  have hb := ha.trans_le hab
  rcases hx.eq_or_lt with rfl | hx
  · rw [abel_indicator_Ico_axis _ ha.le hab]
    simp only [one_div]
    rw [integral_inv_of_pos ha hb, zero_pow two_ne_zero, sub_zero, sub_zero, Real.sqrt_sq hb.le, Real.sqrt_sq ha.le,
      ← two_mul, ← two_mul, mul_div_mul_left _ _ two_ne_zero]
  · rw [abel_shell_inv a b x hx ha.le hab, hc_add_los_of_ge hx.le (hxa.trans hab), hc_add_los_of_ge hx.le hxa,
      Real.log_div (sqrt_add_pos hb).ne' (sqrt_add_pos ha).ne']

theorem abel_shell_inv_cut (ha : 0 ≤ a) (hx : 0 < x) (hax : a ≤ x) (hxb : x ≤ b) :
    Abel (indicator (Ico a b) (fun ρ => 1 / ρ)) x = 2 * Real.log ((Real.sqrt (b ^ 2 - x ^ 2) + b) / x) := by
  rw [abel_shell_inv a b x hx ha (hax.trans hxb), hc_add_los_of_ge hx.le hxb, hc_add_los_of_le ha hax,
    Real.log_div (sqrt_add_pos (hx.trans_le hxb)).ne' hx.ne']

/-- a shell inside the cylinder of the line of sight is not seen -/
theorem abel_shell_inner (g : ℝ → ℝ) (hbx : b ≤ x) : Abel (indicator (Ico a b) g) x = 0 :=
  abel_eq_zero_of_support (fun _ hr => indicator_of_notMem (fun hm => hm.2.not_ge hr) g) hbx

end

/-- for an integer pixel `i` and the integer shell `[j, j+1)`, not both at the centre: `2π·J(i, j)` of Dasch Eq. (9) if the shell lies
    outside `i`, 0 inside -/
theorem abel_shell_inv_nat_all (i j : ℕ) (h : 0 < i ∨ 0 < j) :
    Abel (indicator (Ico (j : ℝ) ((j : ℝ) + 1)) (fun ρ => 1 / ρ)) i = if i ≤ j then 2 * Real.pi * (tpJ i j : ℝ) else 0 := by
  have hle : (j : ℝ) ≤ (j : ℝ) + 1 := le_add_of_nonneg_right zero_le_one
  by_cases hij : i ≤ j
  · rw [if_pos hij, abel_shell_inv_outer (Nat.cast_nonneg i) (Nat.cast_pos.mpr (h.elim (fun hi => hi.trans_le hij) id)) (Nat.cast_le.mpr hij) hle]
    unfold tpJ
    simp only [sqrt_real, log_real, pi_real]
    push_cast
    rw [mul_assoc, mul_div_cancel₀ _ Real.pi_ne_zero]
  · have hji : (j : ℝ) + 1 ≤ (i : ℝ) := by exact_mod_cast not_le.mp hij
    rw [if_neg hij, abel_shell_inner _ hji]

theorem abel_shell_inv_nat (i j : ℕ) (hi : 0 < i) :
    Abel (indicator (Ico (j : ℝ) ((j : ℝ) + 1)) (fun ρ => 1 / ρ)) i = if i ≤ j then 2 * Real.pi * (tpJ i j : ℝ) else 0 :=
  abel_shell_inv_nat_all i j (Or.inl hi)

theorem sum_by_parts (n : ℕ) (P T : ℕ → ℝ) :
    sumRange n (fun j => (P (j + 1) - P j) * T j)
      = P n * (if n = 0 then 0 else T (n - 1)) - sumRange n (fun j => P j * (T j - (if j = 0 then 0 else T (j - 1)))) := by
  induction n with
  | zero => simp [sumRange]
  | succ n ih =>
    rw [sumRange_succ, sumRange_succ, ih]
    simp only [Nat.add_sub_cancel, if_neg (Nat.succ_ne_zero n)]
    ring

/-- the samples, continued by zeros -/
def padded (n : ℕ) (P : ℕ → ℝ) (j : ℕ) : ℝ := if j < n then P j else 0

/-- derivative of the piecewise-linear interpolant through the samples `(j, P j)`, `j < n`, continued linearly to 0 at `n` -/
noncomputable def dPlin (n : ℕ) (P : ℕ → ℝ) (ρ : ℝ) : ℝ :=
  sumRange n (fun j => (padded n P (j + 1) - padded n P j) * indicator (Ico (j : ℝ) ((j : ℝ) + 1)) 1 ρ)

theorem padded_of_lt {n j : ℕ} (P : ℕ → ℝ) (h : j < n) : padded n P j = P j := if_pos h

theorem padded_of_ge {n j : ℕ} (P : ℕ → ℝ) (h : n ≤ j) : padded n P j = 0 := if_neg (not_lt.mpr h)

/-- if the slope of the interpolant on `[j, j+1)` enters `P′(ρ)/ρ` with a weight `g j` whose line-of-sight integral is `2π T j`,
    summation by parts turns the inverse Abel integral into the backward differences of `T` applied to the samples -/
theorem twoPoint_skeleton (n : ℕ) (P : ℕ → ℝ) (x : ℝ) (g : ℕ → ℝ → ℝ) (T : ℕ → ℝ)
    (hg : ∀ j, LosInt (g j) x) (hT : ∀ j, Abel (g j) x = 2 * Real.pi * T j) :
    -(1 / (2 * Real.pi)) * Abel (fun ρ => sumRange n fun j => (padded n P (j + 1) - padded n P j) * g j ρ) x
      = sumRange n fun j => (T j - if j = 0 then 0 else T (j - 1)) * P j := by
  rw [(abel_sumRange n _ g x fun j _ => hg j).1,
    sumRange_congr n _ (fun j => 2 * Real.pi * ((padded n P (j + 1) - padded n P j) * T j)) fun j _ => by rw [hT j, mul_left_comm],
    sumRange_smul, sum_by_parts n (padded n P) T, padded_of_ge P le_rfl, zero_mul, zero_sub, mul_neg, neg_mul_neg, ← mul_assoc,
    one_div_mul_cancel (mul_ne_zero two_ne_zero Real.pi_ne_zero), one_mul]
  exact sumRange_congr n _ _ fun j hj => by rw [padded_of_lt P hj, mul_comm]

/-- rows `i ≥ 1` of the two-point operator: the backward differences of `J(i, ·)`, cut off inside `i` -/
theorem twoPointD_of_pos {i : ℕ} (hi : 0 < i) (j : ℕ) :
    (twoPointD i j : ℝ) = (if i ≤ j then (tpJ i j : ℝ) else 0) - if j = 0 then 0 else if i ≤ j - 1 then (tpJ i (j - 1) : ℝ) else 0 := by
  unfold twoPointD
  rw [if_neg (fun h => hi.ne' h.1), if_neg (fun h => hi.ne' h.1)]
  rcases lt_trichotomy j i with h | rfl | h
  · rw [if_pos h, if_neg h.not_ge, if_neg ((j.sub_le 1).trans_lt h).not_ge, ite_self, sub_zero]
  · rw [if_neg (lt_irrefl j), if_pos rfl, if_pos le_rfl, if_neg hi.ne', if_neg (Nat.sub_one_lt hi.ne').not_ge, sub_zero]
  · rw [if_neg h.not_gt, if_neg h.ne, if_pos h.le, if_neg (Nat.zero_lt_of_lt h).ne', if_pos (Nat.le_sub_one_of_lt h)]

/-- **two-point operator** (Dasch Eqs. (8), (9)), rows `i ≥ 1`: the operator applied to any samples is the inverse Abel integral, at
    `r = i`, of the piecewise-linear interpolant of the samples -/
theorem twoPoint_eq_invAbel (n i : ℕ) (hi : 0 < i) (P : ℕ → ℝ) :
    sumRange n (fun j => (twoPointD i j : ℝ) * P j) = invAbel (dPlin n P) i := by
  have hfun : (fun ρ => dPlin n P ρ / ρ) = fun ρ => sumRange n fun j =>
      (padded n P (j + 1) - padded n P j) * indicator (Ico (j : ℝ) ((j : ℝ) + 1)) (fun ρ => 1 / ρ) ρ := by
    funext ρ
    unfold dPlin
    rw [div_eq_mul_one_div, PyAbel.sumRange_mul_right]
    exact sumRange_congr n _ _ fun j _ => by rw [mul_assoc, indicator_one_mul' _ fun ρ => 1 / ρ]
  unfold invAbel
  rw [hfun, twoPoint_skeleton n P i _ (fun j => if i ≤ j then (tpJ i j : ℝ) else 0)
    (fun j => losInt_shell_inv _ _ _ (Nat.cast_pos.mpr hi) (Nat.cast_nonneg j) (le_add_of_nonneg_right zero_le_one))
    (fun j => by rw [abel_shell_inv_nat i j hi, mul_ite, mul_zero])]
  exact sumRange_congr n _ _ fun j _ => by rw [twoPointD_of_pos hi]

/-! the axis row `i = 0` (Dasch's special cases `D[0,0] = 2/π`, `D[0,1] = J(0,1) − 2/π`): on the first interval the interpolant is the
    even parabola `P₀ + (P₁ − P₀) x²` (zero slope on the axis), linear beyond -/

/-- `P′(ρ)/ρ` of that interpolant on `[j, j+1)`, per unit of `P_{j+1} − P_j`: the constant 2 on the first interval, `1/ρ` beyond -/
noncomputable def axisWeight (j : ℕ) : ℝ → ℝ :=
  if j = 0 then indicator (Ico (0 : ℝ) 1) (fun _ => 2) else indicator (Ico (j : ℝ) ((j : ℝ) + 1)) (fun ρ => 1 / ρ)

theorem losInt_axisWeight (j : ℕ) : LosInt (axisWeight j) 0 := by
  unfold axisWeight
  by_cases h : j = 0
  · rw [if_pos h]
    exact losInt_indicator_Ico_axis _ continuousOn_const
  · rw [if_neg h]
    exact losInt_shell_inv_of_pos le_rfl (Nat.cast_pos.mpr (Nat.pos_of_ne_zero h)) (le_add_of_nonneg_right zero_le_one)

theorem abel_axisWeight (j : ℕ) :
    Abel (axisWeight j) 0 = 2 * Real.pi * (if j = 0 then 2 / Real.pi else (tpJ 0 j : ℝ)) := by
  unfold axisWeight
  by_cases h : j = 0
  · rw [if_pos h, if_pos h, abel_indicator_Ico_axis _ le_rfl zero_le_one, intervalIntegral.integral_const, sub_zero, one_smul,
      mul_assoc, mul_div_cancel₀ _ Real.pi_ne_zero]
  · have hj := abel_shell_inv_nat_all 0 j (Or.inr (Nat.pos_of_ne_zero h))
    rw [Nat.cast_zero, if_pos (Nat.zero_le j)] at hj
    rw [if_neg h, if_neg h, hj]

/-- derivative of the axis-row interpolant: `2 (P₁ − P₀) ρ` on `[0, 1)`, `P_{j+1} − P_j` on `[j, j+1)` beyond (zero-padded samples) -/
noncomputable def dPaxis (n : ℕ) (P : ℕ → ℝ) (ρ : ℝ) : ℝ :=
  ρ * sumRange n (fun j => (padded n P (j + 1) - padded n P j) * axisWeight j ρ)

/-- the axis row of the two-point operator: Dasch's special cases, the backward differences of `J(0, ·)` beyond -/
theorem twoPointD_zero (j : ℕ) :
    (twoPointD 0 j : ℝ) = (if j = 0 then 2 / Real.pi else (tpJ 0 j : ℝ))
      - if j = 0 then 0 else if j - 1 = 0 then 2 / Real.pi else (tpJ 0 (j - 1) : ℝ) := by
  unfold twoPointD
  simp only [Nat.cast_ofNat, pi_real, true_and]
  obtain (rfl | rfl) | h := (le_or_gt j 1).imp_left Nat.le_one_iff_eq_zero_or_eq_one.mp
  · rw [if_pos rfl, if_pos rfl, if_pos rfl, sub_zero]
  · rw [if_neg one_ne_zero, if_pos rfl, if_neg one_ne_zero, if_neg one_ne_zero, if_pos rfl]
  · have h0 := (zero_lt_one.trans h).ne'
    rw [if_neg h0, if_neg h.ne', if_neg j.not_lt_zero, if_neg h0.symm, if_neg h0, if_neg h0, if_neg (Nat.sub_ne_zero_of_lt h)]

/-- **two-point operator, axis row**: `Σ_j D[0, j] P_j` is the inverse Abel integral at `r = 0` of the interpolant that is an even
    parabola on the first interval and piecewise linear beyond -/
theorem twoPoint_axis_eq_invAbel (n : ℕ) (P : ℕ → ℝ) :
    sumRange n (fun j => (twoPointD 0 j : ℝ) * P j) = invAbel (dPaxis n P) 0 := by
  have hex : Abel (fun ρ => dPaxis n P ρ / ρ) 0
      = Abel (fun ρ => sumRange n fun j => (padded n P (j + 1) - padded n P j) * axisWeight j ρ) 0 :=
    abel_congr_except 0 0 fun ρ hρ => mul_div_cancel_left₀ _ hρ
  unfold invAbel
  rw [hex, twoPoint_skeleton n P 0 axisWeight (fun j => if j = 0 then 2 / Real.pi else (tpJ 0 j : ℝ)) losInt_axisWeight abel_axisWeight]
  exact sumRange_congr n _ _ fun j _ => by rw [twoPointD_zero]

/-- non-vacuity: the single sample `P₀ = 1` (`n = 1`): the parabola `1 − x²` on `[0, 1)`, whose inverse Abel integral on the axis is `2/π` -/
example : invAbel (dPaxis 1 (fun _ => 1)) 0 = 2 / Real.pi := by
  rw [← twoPoint_axis_eq_invAbel]
  simp [sumRange, twoPointD]

/-- the line of sight `t ↦ √(r² + t²)` maps `(0, ∞)` onto `(r, ∞)` -/
theorem los_image (r : ℝ) (hr : 0 ≤ r) : (fun t => Real.sqrt (r ^ 2 + t ^ 2)) '' Ioi 0 = Ioi r := by
  ext x
  constructor
  · rintro ⟨t, ht, rfl⟩
    exact (Real.lt_sqrt hr).mpr (lt_add_of_pos_right _ (pow_pos ht 2))
  · intro hx
    have hd : 0 < x ^ 2 - r ^ 2 := sub_pos.mpr (pow_lt_pow_left₀ hx hr two_ne_zero)
    refine ⟨Real.sqrt (x ^ 2 - r ^ 2), Real.sqrt_pos.mpr hd, ?_⟩
    show Real.sqrt (r ^ 2 + Real.sqrt (x ^ 2 - r ^ 2) ^ 2) = x
    rw [Real.sq_sqrt hd.le, add_sub_cancel, Real.sqrt_sq (hr.trans (le_of_lt hx))]

/-- the Jacobian `t/ρ` of `t ↦ ρ = √(r² + t²)` turns `dx/√(x² − r²)` into `dt/ρ` -/
theorem jacobian_smul {r t ρ : ℝ} (d : ℝ) (ht : 0 < t) (hρ : 0 < ρ) (h : ρ ^ 2 = r ^ 2 + t ^ 2) :
    |t / ρ| • (d / Real.sqrt (ρ ^ 2 - r ^ 2)) = d / ρ := by
  rw [abs_of_pos (div_pos ht hρ), h, add_sub_cancel_left, Real.sqrt_sq ht.le, smul_eq_mul, div_mul_div_comm, mul_comm t,
    mul_div_mul_right _ _ ht.ne']

/-- **the line-of-sight form is the textbook inverse Abel integral**: `invAbel P′ r = −(1/π) ∫_r^∞ P′(x) / √(x² − r²) dx`
    (substitution `x = √(r² + t²)`; no regularity of `P′` is needed — both sides are the same Lebesgue integral) -/
theorem invAbel_eq_textbook (dP : ℝ → ℝ) (r : ℝ) (hr : 0 ≤ r) :
    invAbel dP r = -(1 / Real.pi) * ∫ x in Ioi r, dP x / Real.sqrt (x ^ 2 - r ^ 2) := by
  unfold invAbel Abel
  rw [← los_image r hr]
  have hd : ∀ t ∈ Ioi (0 : ℝ), HasDerivWithinAt (fun t => Real.sqrt (r ^ 2 + t ^ 2)) (t / Real.sqrt (r ^ 2 + t ^ 2)) (Ioi 0) t :=
    fun t ht => (hasDerivAt_los (los_pos_of_pos_right r ht)).hasDerivWithinAt
  have hinj : InjOn (fun t => Real.sqrt (r ^ 2 + t ^ 2)) (Ioi 0) :=
    StrictMonoOn.injOn fun t1 h1 t2 _ h =>
      Real.sqrt_lt_sqrt (add_nonneg (sq_nonneg r) (sq_nonneg t1)) (add_lt_add_right (pow_lt_pow_left₀ h (le_of_lt h1) two_ne_zero) _)
  rw [integral_image_eq_integral_abs_deriv_smul measurableSet_Ioi hd hinj,
    setIntegral_congr_fun measurableSet_Ioi fun t ht =>
      jacobian_smul (ρ := Real.sqrt (r ^ 2 + t ^ 2)) _ ht (los_pos_of_pos_right r ht) (los_sq r t)]
  ring
end PyAbel.C09
