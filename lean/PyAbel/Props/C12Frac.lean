/-
C12, fractional origins with `order=1`: the sub-pixel shift is linear interpolation,
  out[i] = (1 − f) · x[i − k] + f · x[i − k − 1]      for a shift by  δ = k + f,  k ∈ ℤ,  0 ≤ f < 1
(`scipy.ndimage.shift(np.pad(x, 1), δ, order=1)` inside the padded frame; `set_center` pads by one pixel precisely so that the
fractional edge pixels are kept).  For data of finite support this conserves the total intensity exactly and moves the centroid by
exactly δ — per axis, hence for images (the 2-D shift is the composition of the two 1-D shifts).
-/
import PyAbel.Model.Center
import Mathlib.Algebra.BigOperators.Finprod
import Mathlib.Algebra.FiniteSupport.Basic
import Mathlib.Algebra.Field.Basic
import Mathlib.Tactic.Ring

namespace PyAbel.C12
open Function

variable {K : Type} [Field K]

open PyAbel (shiftLin)

theorem finite_support_comp_sub (x : ℤ → K) (hx : (support x).Finite) (c : ℤ) :
    (support fun i : ℤ => x (i - c)).Finite :=
  HasFiniteSupport.fun_comp_of_injective (sub_left_injective (b := c)) hx

theorem finsum_comp_sub (g : ℤ → K) (c : ℤ) : ∑ᶠ i : ℤ, g (i - c) = ∑ᶠ j : ℤ, g j :=
  finsum_comp_equiv (Equiv.subRight c) (f := g)

theorem finsum_mul_comp_sub (w g : ℤ → K) (c : ℤ) : ∑ᶠ i : ℤ, w i * g (i - c) = ∑ᶠ j : ℤ, w (j + c) * g j := by
  simpa only [sub_add_cancel] using finsum_comp_sub (fun j => w (j + c) * g j) c

theorem finite_support_mul_left (a : K) (g : ℤ → K) (hg : (support g).Finite) : (support fun i => a * g i).Finite :=
  HasFiniteSupport.fun_mul_right (fun _ => a) hg

theorem finsum_mul_shiftLin (w : ℤ → K) (k : ℤ) (f : K) (x : ℤ → K) (hx : (support x).Finite) :
    ∑ᶠ i, w i * shiftLin k f x i = (1 - f) * ∑ᶠ j, w (j + k) * x j + f * ∑ᶠ j, w (j + (k + 1)) * x j := by
  have fin : ∀ c : ℤ, (support fun i => w i * x (i - c)).Finite := fun c =>
    HasFiniteSupport.fun_mul_right w (finite_support_comp_sub x hx c)
  rw [← finsum_mul_comp_sub, ← finsum_mul_comp_sub, mul_finsum' _ _ (fin k), mul_finsum' _ _ (fin (k + 1)),
    ← finsum_add_distrib (finite_support_mul_left _ _ (fin k)) (finite_support_mul_left _ _ (fin (k + 1)))]
  refine finsum_congr fun i => ?_
  rw [shiftLin, sub_sub]; ring

/-- **total intensity is conserved exactly** by the order-1 sub-pixel shift -/
theorem shiftLin_sum (k : ℤ) (f : K) (x : ℤ → K) (hx : (support x).Finite) :
    ∑ᶠ i, shiftLin k f x i = ∑ᶠ i, x i := by
  have := finsum_mul_shiftLin (fun _ => 1) k f x hx
  simp only [one_mul] at this
  rw [this]; ring

/-- **the first moment moves by exactly `(k + f)` times the total**: the centroid is shifted by the requested `δ = k + f` -/
theorem shiftLin_moment (k : ℤ) (f : K) (x : ℤ → K) (hx : (support x).Finite) :
    ∑ᶠ i : ℤ, (i : K) * shiftLin k f x i = ∑ᶠ i : ℤ, (i : K) * x i + ((k : K) + f) * ∑ᶠ i, x i := by
  have key : ∀ c : ℤ, ∑ᶠ j : ℤ, ((j + c : ℤ) : K) * x j = ∑ᶠ j : ℤ, (j : K) * x j + (c : K) * ∑ᶠ j, x j := fun c => by
    rw [mul_finsum' _ _ hx, ← finsum_add_distrib (HasFiniteSupport.fun_mul_right _ hx) (finite_support_mul_left _ _ hx)]
    refine finsum_congr fun j => ?_
    push_cast; ring
  rw [finsum_mul_shiftLin (fun i : ℤ => (i : K)) k f x hx, key, key]
  push_cast; ring

/-! ### algebra of the order-1 shift: translation, continuity in δ, linearity, composition, exactness on ramps -/

/-- a whole-pixel request (`f = 0`) is a pure translation: no interpolation, every value kept -/
theorem shiftLin_zero_frac (k : ℤ) (x : ℤ → K) (i : ℤ) : shiftLin k 0 x i = x (i - k) := by
  rw [shiftLin, sub_zero, one_mul, zero_mul, add_zero]

/-- no shift requested → the data are returned unchanged -/
theorem shiftLin_zero (x : ℤ → K) : shiftLin 0 0 x = x := by
  funext i; rw [shiftLin_zero_frac, sub_zero]

/-- `f = 1` is the next whole pixel: the interpolation is continuous across integer shifts -/
theorem shiftLin_one_frac (k : ℤ) (x : ℤ → K) : shiftLin k 1 x = shiftLin (k + 1) 0 x := by
  funext i; rw [shiftLin_zero_frac, shiftLin, sub_self, zero_mul, zero_add, one_mul, sub_sub]

/-- the shift is **linear** in the data -/
theorem shiftLin_linear (k : ℤ) (f a b : K) (x y : ℤ → K) (i : ℤ) :
    shiftLin k f (fun j => a * x j + b * y j) i = a * shiftLin k f x i + b * shiftLin k f y i := by
  simp only [shiftLin]; ring

/-- whole-pixel shifts compose additively with any sub-pixel shift, in either order -/
theorem shiftLin_comp_int (k k' : ℤ) (f : K) (x : ℤ → K) :
    shiftLin k 0 (shiftLin k' f x) = shiftLin (k + k') f x ∧
    shiftLin k' f (shiftLin k 0 x) = shiftLin (k + k') f x := by
  refine ⟨funext fun i => ?_, funext fun i => ?_⟩
  · rw [shiftLin_zero_frac, shiftLin, shiftLin, sub_sub]
  · rw [shiftLin, shiftLin_zero_frac, shiftLin_zero_frac, shiftLin, sub_right_comm (i - k') 1 k, sub_right_comm i k' k, sub_sub]

/-- a constant image stays the same constant (partition of unity of the two weights) -/
theorem shiftLin_const (k : ℤ) (f c : K) (i : ℤ) : shiftLin k f (fun _ => c) i = c := by
  simp only [shiftLin]; ring

/-- a linear ramp is moved exactly: linear interpolation is exact on degree-1 data, so the
    centre of a linear feature lands exactly where requested -/
theorem shiftLin_ramp (k : ℤ) (f a b : K) (i : ℤ) :
    shiftLin k f (fun j : ℤ => a * (j : K) + b) i = a * ((i : K) - ((k : K) + f)) + b := by
  simp only [shiftLin]; push_cast; ring

end PyAbel.C12
