/-
C01 — the two-point and three-point inverse transforms are exact on their own interpolation classes: applied to samples `P_0 … P_{n−1}`
of a projection, they return at every pixel `i ≥ 1` the textbook inverse Abel integral `−(1/π) ∫_i^∞ P′(x) dx/√(x² − i²)` of the
interpolant of the samples (piecewise linear / locally quadratic, continued to zero beyond the last sample).  So whenever the true
projection *is* such an interpolant of its samples, the reconstruction is the true source at the pixel centres, for every image size —
the discretisation error of these methods is exactly the inverse Abel transform of the interpolation error of the projection.
(Corollaries of C09TwoPoint / C09ThreePoint and of the substitution `x = √(r² + t²)`.)
-/
import PyAbel.Props.C09ThreePoint

open MeasureTheory Set

namespace PyAbel.C01
open PyAbel PyAbel.C09

/-- two-point: `(D·P)_i` is the textbook inverse Abel integral of the piecewise-linear interpolant -/
theorem two_point_exact (n i : ℕ) (hi : 0 < i) (P : ℕ → ℝ) :
    sumRange n (fun j => (twoPointD i j : ℝ) * P j)
      = -(1 / Real.pi) * ∫ x in Ioi (i : ℝ), dPlin n P x / Real.sqrt (x ^ 2 - (i : ℝ) ^ 2) := by
  rw [twoPoint_eq_invAbel n i hi P, invAbel_eq_textbook _ _ (Nat.cast_nonneg i)]

/-- three-point: `(D·P)_i` is the textbook inverse Abel integral of the local quadratic interpolant -/
theorem three_point_exact (n i : ℕ) (hi : 0 < i) (P : ℕ → ℝ) :
    sumRange n (fun j => (threePointD i j : ℝ) * P j)
      = -(1 / Real.pi) * ∫ x in Ioi (i : ℝ), dPquad n P x / Real.sqrt (x ^ 2 - (i : ℝ) ^ 2) := by
  rw [threePoint_eq_invAbel n i hi P, invAbel_eq_textbook _ _ (Nat.cast_nonneg i)]

/-- the textbook integral at `r` sees the derivative only beyond `r` -/
theorem textbook_congr {f g : ℝ → ℝ} {r : ℝ} (h : ∀ x, r < x → f x = g x) :
    ∫ x in Ioi r, g x / Real.sqrt (x ^ 2 - r ^ 2) = ∫ x in Ioi r, f x / Real.sqrt (x ^ 2 - r ^ 2) :=
  setIntegral_congr_fun measurableSet_Ioi fun x hx => by rw [h x hx]

/-- … hence, for a projection whose derivative is that of the interpolant of its own samples (on `x > i`, up to a null set — here:
    everywhere), the two-point reconstruction at pixel `i` is the inverse Abel transform of the projection itself -/
theorem two_point_recovers (n i : ℕ) (hi : 0 < i) (P : ℕ → ℝ) (dProj : ℝ → ℝ) (h : ∀ x, (i : ℝ) < x → dProj x = dPlin n P x) :
    sumRange n (fun j => (twoPointD i j : ℝ) * P j)
      = -(1 / Real.pi) * ∫ x in Ioi (i : ℝ), dProj x / Real.sqrt (x ^ 2 - (i : ℝ) ^ 2) := by
  rw [two_point_exact n i hi P, textbook_congr h]

theorem three_point_recovers (n i : ℕ) (hi : 0 < i) (P : ℕ → ℝ) (dProj : ℝ → ℝ) (h : ∀ x, (i : ℝ) < x → dProj x = dPquad n P x) :
    sumRange n (fun j => (threePointD i j : ℝ) * P j)
      = -(1 / Real.pi) * ∫ x in Ioi (i : ℝ), dProj x / Real.sqrt (x ^ 2 - (i : ℝ) ^ 2) := by
  rw [three_point_exact n i hi P, textbook_congr h]

end PyAbel.C01
