/-
C14 — radial distributions recover an exact angular model exactly.

Model: PyAbel/Model/Distributions.lean.  The theorems are about the algebraic core that the executable
model is built from (`weightMoment`, `dataMoment`, `solve2`, `solve3`, `solveBin`), over any field:
if within a radial bin every folded pixel value is  ω·Σ_m a_m tᵐ  (the image is Σ a_m cosᵐθ there, ω the
folded weight times the bin weight, any ω, any pixel set), then the data moments are the Hankel matrix of
the weight moments applied to `a`, and the coded adjugate inverses return `a` whenever the Hankel
determinant does not vanish.
-/
import PyAbel.Lemmas.ModelArith
import Mathlib.Algebra.BigOperators.Group.List.Basic
import Mathlib.Algebra.BigOperators.Intervals
import Mathlib.Algebra.BigOperators.Ring.Finset
import Mathlib.Algebra.Order.Field.Rat
import Mathlib.Algebra.Field.Basic
import Mathlib.Tactic.Ring
import Mathlib.Tactic.FieldSimp

namespace PyAbel.C14
open PyAbel.Distr Finset

variable {K : Type} [Field K]

theorem lsum_eq_sum (xs : List K) : lsum xs = xs.sum :=
  Distr.lsum_eq_sum xs

theorem pow_eq (x : K) (n : ℕ) : Distr.pow x n = x ^ n :=
  distr_pow_eq x n

/-- both moments are `Σ w(p) tᵏ` over the contributions, `w` the field `ω` (`weightMoment`) or `v` (`dataMoment`) -/
theorem moment_map (w : Contrib K → K) (φ : Contrib K → Contrib K) (c : K) (k : ℕ)
    (h : ∀ p, w (φ p) * (φ p).t ^ k = c * (w p * p.t ^ k)) (ps : List (Contrib K)) :
    lsum ((ps.map φ).map fun p => w p * Distr.pow p.t k) = c * lsum (ps.map fun p => w p * Distr.pow p.t k) := by
  simp only [lsum_eq_sum, pow_eq, List.map_map]
  rw [← List.sum_map_mul_left]
  exact congrArg List.sum (List.map_congr_left fun p _ => h p)

/-- **normal equations**: `p_n = Σ_m pc_{n+m} a_m` for every pixel set and every weight -/
theorem normal_equations (N : ℕ) (ps : List (Contrib K)) (a : ℕ → K)
    (hmodel : ∀ p ∈ ps, p.v = p.ω * ∑ m ∈ range N, a m * p.t ^ m) (n : ℕ) :
    dataMoment ps n = ∑ m ∈ range N, weightMoment ps (n + m) * a m := by
  simp only [dataMoment, weightMoment, lsum_eq_sum, pow_eq]
  induction ps with
  | nil => simp
  | cons p ps ih =>
    simp only [List.map_cons, List.sum_cons]
    rw [ih (fun q hq => hmodel q (List.mem_cons_of_mem _ hq)), hmodel p (List.mem_cons_self)]
    rw [Finset.mul_sum, Finset.sum_mul, ← Finset.sum_add_distrib]
    apply Finset.sum_congr rfl
    intro m _
    rw [pow_add]; ring

/-! ### structure of the two sides: geometry only / linear in the image / masked pixels / visiting order -/

/-- the normal matrix is built from the geometry and the weights alone: the image values never enter it -/
theorem weightMoment_indep_of_data (ps : List (Contrib K)) (g : K → K) (k : ℕ) :
    weightMoment (ps.map fun p => ⟨p.ω, p.t, g p.v⟩) k = weightMoment ps k := by
  simp only [weightMoment, List.map_map]
  rfl

/-- the right-hand sides are **linear in the image**: superposition of two images on the same pixel set -/
theorem dataMoment_linear (ps : List (Contrib K)) (u : Contrib K → K) (a b : K) (n : ℕ) :
    dataMoment (ps.map fun p => ⟨p.ω, p.t, a * p.v + b * u p⟩) n
      = a * dataMoment ps n + b * dataMoment (ps.map fun p => ⟨p.ω, p.t, u p⟩) n := by
  simp only [dataMoment, lsum_eq_sum, pow_eq, List.map_map]
  rw [← List.sum_map_mul_left, ← List.sum_map_mul_left, ← List.sum_map_add]
  exact congrArg List.sum (List.map_congr_left fun p _ => by simp only [Function.comp]; ring)

/-- a pixel of zero weight **and** zero value contributes nothing to either side: masked pixels can be dropped or kept -/
theorem moments_drop_zero (ps : List (Contrib K)) (t : K) (n : ℕ) :
    weightMoment (⟨0, t, 0⟩ :: ps) n = weightMoment ps n ∧ dataMoment (⟨0, t, 0⟩ :: ps) n = dataMoment ps n := by
  simp [weightMoment, dataMoment, lsum_eq_sum]

/-- in exact arithmetic the moments do not depend on the order in which the pixels are visited (floating-point summation order is
    outside the model; the check compares the implementation with the model to a rounding tolerance) -/
theorem moments_perm (ps qs : List (Contrib K)) (h : ps.Perm qs) (n : ℕ) :
    weightMoment ps n = weightMoment qs n ∧ dataMoment ps n = dataMoment qs n := by
  simp only [weightMoment, dataMoment, lsum_eq_sum]
  exact ⟨(h.map _).sum_eq, (h.map _).sum_eq⟩

/-- Cramer's rule read backwards; `One.one` is how the model, written over bare notation classes, spells 1 -/
theorem cramer_eq {d N a : K} (hd : d ≠ 0) (h : N = d * a) : One.one / d * N = a := by
  rw [h, show (One.one : K) = 1 from rfl, one_div, inv_mul_cancel_left₀ hd]

theorem cramer_scale {c s n d N N' : K} (hN : s * N' = n * c * N) (hs : s ≠ 0) (hc : c ≠ 0) :
    1 / (c * d) * N' = n / s * (1 / d * N) := by
  obtain rfl : N' = n * c * N / s := eq_div_of_mul_eq hs (by rw [mul_comm, hN])
  field_simp

variable [DecidableEq K]

/-- the coded 2×2 adjugate inverse solves the Hankel system -/
theorem solve2_correct (p0 p1 p2 a0 a1 : K) (hd : p0 * p2 - p1 * p1 ≠ 0) :
    solve2 p0 p1 p2 (p0 * a0 + p1 * a1) (p1 * a0 + p2 * a1) = (a0, a1) := by
  simp only [solve2, hd, if_false]
  exact Prod.ext (cramer_eq hd (by ring)) (cramer_eq hd (by ring))

/-- the coded 3×3 adjugate inverse solves the Hankel system -/
theorem solve3_correct (p0 p1 p2 p3 p4 a0 a1 a2 : K)
    (hd : p0 * (p2 * p4 - p3 * p3) + p1 * (p2 * p3 - p1 * p4) + p2 * (p1 * p3 - p2 * p2) ≠ 0) :
    solve3 p0 p1 p2 p3 p4 (p0 * a0 + p1 * a1 + p2 * a2) (p1 * a0 + p2 * a1 + p3 * a2) (p2 * a0 + p3 * a1 + p4 * a2)
      = (a0, a1, a2) := by
  simp only [solve3, hd, if_false]
  exact Prod.ext (cramer_eq hd (by ring)) (Prod.ext (cramer_eq hd (by ring)) (cramer_eq hd (by ring)))

/-- **exact recovery**, one angular term (order 0) -/
theorem recover_exact_1 (ps : List (Contrib K)) (a : ℕ → K)
    (hmodel : ∀ p ∈ ps, p.v = p.ω * ∑ m ∈ range 1, a m * p.t ^ m) (h : weightMoment ps 0 ≠ 0) :
    solveBin 1 ps = [a 0] := by
  have e0 := normal_equations 1 ps a hmodel 0
  rw [Finset.sum_range_one] at e0
  simp only [solveBin, h, if_false]
  rw [cramer_eq h e0]

/-- **exact recovery**, two angular terms -/
theorem recover_exact_2 (ps : List (Contrib K)) (a : ℕ → K)
    (hmodel : ∀ p ∈ ps, p.v = p.ω * ∑ m ∈ range 2, a m * p.t ^ m)
    (h : weightMoment ps 0 * weightMoment ps 2 - weightMoment ps 1 * weightMoment ps 1 ≠ 0) :
    solveBin 2 ps = [a 0, a 1] := by
  have e := normal_equations 2 ps a hmodel
  simp only [Finset.sum_range_succ, Finset.sum_range_zero, zero_add] at e
  simp only [solveBin, e]
  rw [solve2_correct _ _ _ _ _ h]

/-- **exact recovery**, three angular terms -/
theorem recover_exact_3 (ps : List (Contrib K)) (a : ℕ → K)
    (hmodel : ∀ p ∈ ps, p.v = p.ω * ∑ m ∈ range 3, a m * p.t ^ m)
    (h : weightMoment ps 0 * (weightMoment ps 2 * weightMoment ps 4 - weightMoment ps 3 * weightMoment ps 3)
        + weightMoment ps 1 * (weightMoment ps 2 * weightMoment ps 3 - weightMoment ps 1 * weightMoment ps 4)
        + weightMoment ps 2 * (weightMoment ps 1 * weightMoment ps 3 - weightMoment ps 2 * weightMoment ps 2) ≠ 0) :
    solveBin 3 ps = [a 0, a 1, a 2] := by
  have e := normal_equations 3 ps a hmodel
  simp only [Finset.sum_range_succ, Finset.sum_range_zero, zero_add] at e
  simp only [solveBin, e]
  rw [solve3_correct _ _ _ _ _ _ _ _ h]

/-- **exact recovery, any number of angular terms** (orders 6, 8, … and odd orders with four and more terms, which the code inverts with a
    general matrix inverse): whenever `C` is a left inverse of the ring's Hankel matrix of weight moments, `C` applied to the data moments
    returns the model's coefficients — for every pixel set and every weights -/
theorem recover_exact_general (N : ℕ) (ps : List (Contrib K)) (a : ℕ → K)
    (hmodel : ∀ p ∈ ps, p.v = p.ω * ∑ m ∈ range N, a m * p.t ^ m)
    (C : ℕ → ℕ → K)
    (hC : ∀ k, k < N → ∀ m, m < N → ∑ n ∈ range N, C k n * weightMoment ps (n + m) = if k = m then 1 else 0)
    (k : ℕ) (hk : k < N) :
    ∑ n ∈ range N, C k n * dataMoment ps n = a k := by
  simp only [normal_equations N ps a hmodel, mul_sum, ← mul_assoc]
  rw [sum_comm]
  simp only [← sum_mul]
  rw [sum_congr rfl fun m hm => congrArg (· * a m) (hC k hk m (mem_range.1 hm))]
  simp [hk]

/-! non-vacuity: two pixels with cos²θ = 0 and 1 determine an order-2 model -/
example : (weightMoment ([⟨1, 0, 5⟩, ⟨1, 1, 8⟩] : List (Contrib ℚ)) 0)
      * weightMoment ([⟨1, 0, 5⟩, ⟨1, 1, 8⟩] : List (Contrib ℚ)) 2
    - weightMoment ([⟨1, 0, 5⟩, ⟨1, 1, 8⟩] : List (Contrib ℚ)) 1 * weightMoment ([⟨1, 0, 5⟩, ⟨1, 1, 8⟩] : List (Contrib ℚ)) 1 ≠ 0 := by
  decide +kernel


/-! ### the per-radius scaling of the coded inverses (repair F72: `inverse(p / s) / s`, `s` the total weight at the radius)
is exact in field arithmetic, degenerate branches included — it changes rounding only -/

/-- the 2-term solve under `(ω, t, v) ↦ (l ω, m t, n v)` applied to every contribution, which takes the moments to
    `l mᵏ pc_k` and `n mᵏ p_k`: coefficient `i` is multiplied by `n / (l mⁱ)`, in the degenerate branches too -/
theorem solve2_equivariant (l m n : K) (hl : l ≠ 0) (hm : m ≠ 0) (p0 p1 p2 b0 b1 : K) :
    solve2 (l * p0) (l * m * p1) (l * m ^ 2 * p2) (n * b0) (n * m * b1)
      = (n / l * (solve2 p0 p1 p2 b0 b1).1, n / (l * m) * (solve2 p0 p1 p2 b0 b1).2) := by
  have hd : l * p0 * (l * m ^ 2 * p2) - l * m * p1 * (l * m * p1) = (l * m) ^ 2 * (p0 * p2 - p1 * p1) := by ring
  have hlm := mul_ne_zero hl hm
  have hc : (l * m) ^ 2 ≠ 0 := pow_ne_zero 2 hlm
  simp only [solve2, hd, mul_eq_zero, hc, hl, false_or, show (One.one : K) = 1 from rfl]
  split_ifs
  · simp only [mul_zero]
  · exact Prod.ext (cramer_scale (by ring) hl hl) (mul_zero _).symm
  · exact Prod.ext (cramer_scale (by ring) hl hc) (cramer_scale (by ring) hlm hc)

/-- the 3×3 Hankel determinant as `inv3` expands it -/
abbrev hankelDet3 (p0 p1 p2 p3 p4 : K) : K := p0 * (p2 * p4 - p3 * p3) + p1 * (p2 * p3 - p1 * p4) + p2 * (p1 * p3 - p2 * p2)

omit [DecidableEq K] in
theorem hankelDet3_scale (l m p0 p1 p2 p3 p4 : K) :
    hankelDet3 (l * p0) (l * m * p1) (l * m ^ 2 * p2) (l * m ^ 3 * p3) (l * m ^ 4 * p4)
      = (l * m ^ 2) ^ 3 * hankelDet3 p0 p1 p2 p3 p4 := by
  ring

/-- … and the 3-term solve -/
theorem solve3_equivariant (l m n : K) (hl : l ≠ 0) (hm : m ≠ 0) (p0 p1 p2 p3 p4 b0 b1 b2 : K) :
    solve3 (l * p0) (l * m * p1) (l * m ^ 2 * p2) (l * m ^ 3 * p3) (l * m ^ 4 * p4) (n * b0) (n * m * b1) (n * m ^ 2 * b2)
      = (n / l * (solve3 p0 p1 p2 p3 p4 b0 b1 b2).1, n / (l * m) * (solve3 p0 p1 p2 p3 p4 b0 b1 b2).2.1,
         n / (l * m ^ 2) * (solve3 p0 p1 p2 p3 p4 b0 b1 b2).2.2) := by
  have hlm2 := mul_ne_zero hl (pow_ne_zero 2 hm)
  have hc : (l * m ^ 2) ^ 3 ≠ 0 := pow_ne_zero 3 hlm2
  simp only [solve3, hankelDet3_scale l m, mul_eq_zero, hc, false_or, show (One.one : K) = 1 from rfl]
  split_ifs
  · simp only [solve2_equivariant l m n hl hm, mul_zero]
  · exact Prod.ext (cramer_scale (by ring) hl hc)
      (Prod.ext (cramer_scale (by ring) (mul_ne_zero hl hm) hc) (cramer_scale (by ring) hlm2 hc))

theorem solve2_scaled (p0 p1 p2 b0 b1 s : K) (hs : s ≠ 0) :
    ((solve2 (p0 / s) (p1 / s) (p2 / s) b0 b1).1 / s, (solve2 (p0 / s) (p1 / s) (p2 / s) b0 b1).2 / s)
      = solve2 p0 p1 p2 b0 b1 := by
  have h := solve2_equivariant s⁻¹ 1 1 (inv_ne_zero hs) one_ne_zero p0 p1 p2 b0 b1
  simp only [one_pow, mul_one, one_mul, inv_mul_eq_div, one_div, inv_inv] at h
  simp only [h, mul_div_cancel_left₀ _ hs]

theorem solve3_scaled (p0 p1 p2 p3 p4 b0 b1 b2 s : K) (hs : s ≠ 0) :
    let r := solve3 (p0 / s) (p1 / s) (p2 / s) (p3 / s) (p4 / s) b0 b1 b2
    (r.1 / s, r.2.1 / s, r.2.2 / s) = solve3 p0 p1 p2 p3 p4 b0 b1 b2 := by
  have h := solve3_equivariant s⁻¹ 1 1 (inv_ne_zero hs) one_ne_zero p0 p1 p2 p3 p4 b0 b1 b2
  simp only [one_pow, mul_one, one_mul, inv_mul_eq_div, one_div, inv_inv] at h
  simp only [h, mul_div_cancel_left₀ _ hs]

example : ((solve2 ((6 : ℚ) / 3) (3 / 3) (9 / 3) 1 2).1 / 3, (solve2 ((6 : ℚ) / 3) (3 / 3) (9 / 3) 1 2).2 / 3)
    = solve2 6 3 9 1 2 := solve2_scaled 6 3 9 1 2 3 (by norm_num)

end PyAbel.C14
