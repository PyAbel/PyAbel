/-
C09 — the three-point deconvolution operator (abel/dasch.py `_bs_three_point`, Dasch Eqs. (5)–(7)) is an exact inverse Abel integral:
applied to any samples it gives, at every pixel, the inverse Abel integral (line-of-sight form, see C09TwoPoint) of their local quadratic
interpolant — on `[j − ½, j + ½)` the parabola through the samples `j − 1, j, j + 1` (zero-padded beyond the last one); on the axis row the
even parabola through `P₀`, `P₁` on `[0, ½)` that Dasch's special cases `± 1/π` stand for.

`I0(i, j)` and `I1(i, j)` are the integrals of `1/ρ` and `(ρ − j)/ρ` over the half-integer shells; the assembly of the operator from them is
a second-order summation by parts.
-/
import PyAbel.Props.C09TwoPoint
import PyAbel.Props.C09
open MeasureTheory Set
namespace PyAbel.C09
open PyAbel

theorem sqrt_double (b x : ℝ) : Real.sqrt ((2 * b) ^ 2 - 4 * x ^ 2) = 2 * Real.sqrt (b ^ 2 - x ^ 2) := by
  rw [mul_pow, show (4 : ℝ) = 2 ^ 2 by norm_num, ← mul_sub, Real.sqrt_mul (sq_nonneg _), Real.sqrt_sq zero_le_two]

section
variable {a b x : ℝ}

/-- `(ρ − c)/ρ = 1 − c/ρ` on a shell away from the axis -/
theorem abel_shell_lin (c : ℝ) (hx : 0 ≤ x) (ha : 0 < a) (hab : a ≤ b) :
    Abel (indicator (Ico a b) fun ρ => (ρ - c) / ρ) x
        = Abel (indicator (Ico a b) 1) x - c * Abel (indicator (Ico a b) fun ρ => 1 / ρ) x
      ∧ LosInt (indicator (Ico a b) fun ρ => (ρ - c) / ρ) x := by
  have hfun : (indicator (Ico a b) fun ρ => (ρ - c) / ρ)
      = fun ρ => indicator (Ico a b) 1 ρ - c * indicator (Ico a b) (fun ρ => 1 / ρ) ρ := by
    funext ρ
    by_cases hm : ρ ∈ Ico a b
    · rw [indicator_of_mem hm, indicator_of_mem hm, indicator_of_mem hm, Pi.one_apply, sub_div, div_self (ha.trans_le hm.1).ne', mul_one_div]
    · rw [indicator_of_notMem hm, indicator_of_notMem hm, indicator_of_notMem hm, mul_zero, sub_zero]
  have h1 := losInt_shell a b x ha.le hab
  have h2 := (losInt_shell_inv_of_pos hx ha hab).const_mul c
  rw [hfun]
  exact ⟨by rw [abel_sub h1 h2, abel_const_mul], h1.sub h2⟩

end

/-- the coded entries carry the factor `1/(2π)` -/
theorem two_pi_mul_div (L : ℝ) : 2 * Real.pi * (L / (2 * Real.pi)) = L :=
  mul_div_cancel₀ L (mul_ne_zero two_ne_zero Real.pi_ne_zero)

/-- line-of-sight integral of `1/ρ` over the half-integer shell `[j − ½, j + ½)`, `j ≥ 1`, at an integer pixel `i`: `4π·I0(i, j)` of Dasch
    Eq. (7) (with its diagonal form for the shell cut by the line of sight) -/
theorem abel_halfshell_inv_all (i j : ℕ) (hj : 0 < j) :
    Abel (indicator (Ico ((j : ℝ) - 1 / 2) ((j : ℝ) + 1 / 2)) (fun ρ => 1 / ρ)) i = if i ≤ j then 4 * Real.pi * (tp3I0 i j : ℝ) else 0 := by
  have hlo := sub_half_pos hj
  have hle := sub_half_le_add_half (j : ℝ)
  -- the code takes the radii `j ± ½` doubled, `√((2j ± 1)² − 4i²)`
  unfold tp3I0
  simp only [sqrt_real, log_real, pi_real, Nat.cast_pow, Nat.cast_mul, Nat.cast_ofNat, cast_two_mul_add_one, cast_two_mul_sub_one hj,
    sqrt_double, ← mul_add, mul_div_mul_left _ _ (two_ne_zero' ℝ)]
  rw [show 4 * Real.pi = 2 * (2 * Real.pi) by ring]
  rcases lt_trichotomy i j with h | rfl | h
  · rw [if_pos h.le, if_neg h.ne, mul_assoc, two_pi_mul_div, abel_shell_inv_outer (Nat.cast_nonneg i) hlo (le_sub_half h) hle]
  · rw [if_pos le_rfl, if_pos rfl, mul_assoc, two_pi_mul_div,
      abel_shell_inv_cut hlo.le (Nat.cast_pos.mpr hj) (sub_le_self _ one_half_pos.le) (le_add_of_nonneg_right one_half_pos.le)]
  · rw [if_neg (not_le.mpr h), abel_shell_inner _ (add_half_le h)]

theorem abel_halfshell_inv (i j : ℕ) (hi : 0 < i) (hj : 0 < j) :
    Abel (indicator (Ico ((j : ℝ) - 1 / 2) ((j : ℝ) + 1 / 2)) (fun ρ => 1 / ρ)) i = if i ≤ j then 4 * Real.pi * (tp3I0 i j : ℝ) else 0 :=
  abel_halfshell_inv_all i j hj

/-- … and of `(ρ − j)/ρ`: `2π·I1(i, j)` -/
theorem abel_halfshell_lin_all (i j : ℕ) (hj : 0 < j) :
    Abel (indicator (Ico ((j : ℝ) - 1 / 2) ((j : ℝ) + 1 / 2)) (fun ρ => (ρ - (j : ℝ)) / ρ)) i
      = if i ≤ j then 2 * Real.pi * (tp3I1 i j : ℝ) else 0 := by
  have hlo := sub_half_pos hj
  -- the chord through the shell is the onion-peeling weight, which `I1` holds in its first term
  have hW : Abel (indicator (Ico ((j : ℝ) - 1 / 2) ((j : ℝ) + 1 / 2)) 1) i = onionW i j := by
    rw [onionW_eq_abel, rect, max_eq_right hlo.le]
  rw [(abel_shell_lin (j : ℝ) (Nat.cast_nonneg i) hlo (sub_half_le_add_half _)).1, hW, abel_halfshell_inv_all i j hj]
  unfold onionW tp3I1
  simp only [sqrt_real, pi_real, Nat.cast_mul, Nat.cast_ofNat]
  rcases lt_trichotomy i j with h | rfl | h
  · rw [if_neg h.not_gt, if_neg h.ne, if_pos h.le, if_pos h.le, if_neg h.ne, mul_sub (2 * Real.pi), two_pi_mul_div]
    ring
  · rw [if_neg (lt_irrefl i), if_pos rfl, if_pos le_rfl, if_pos le_rfl, if_pos rfl, mul_sub (2 * Real.pi), two_pi_mul_div]
    ring
  · rw [if_pos h, if_neg h.not_ge, if_neg h.not_ge, mul_zero, sub_zero]

theorem abel_halfshell_lin (i j : ℕ) (hi : 0 < i) (hj : 0 < j) :
    Abel (indicator (Ico ((j : ℝ) - 1 / 2) ((j : ℝ) + 1 / 2)) (fun ρ => (ρ - (j : ℝ)) / ρ)) i
      = if i ≤ j then 2 * Real.pi * (tp3I1 i j : ℝ) else 0 :=
  abel_halfshell_lin_all i j hj

/-- second-order summation by parts, with its boundary terms -/
theorem three_sbp (n : ℕ) (Q U V : ℕ → ℝ) (hU : U 0 = 0) (hV : V 0 = 0) :
    sumRange n (fun m => (Q (m + 2) - Q m) * U (m + 1) + (Q (m + 2) - 2 * Q (m + 1) + Q m) * V (m + 1))
      = -sumRange n (fun k => Q k * (U (k + 1) - V (k + 1) + 2 * V k - (if k = 0 then 0 else U (k - 1)) - (if k = 0 then 0 else V (k - 1))))
        + Q n * ((if n = 0 then 0 else U (n - 1) + V (n - 1)) - 2 * V n) + Q (n + 1) * (U n + V n) := by
  induction n with
  | zero => simp [sumRange, hU, hV]
  | succ n ih =>
    rw [sumRange_succ, sumRange_succ, ih]
    simp only [Nat.add_sub_cancel, if_neg (Nat.succ_ne_zero n)]
    cases n with
    | zero => simp only [zero_add, if_pos, hU, hV]; ring
    | succ m => simp only [if_neg (Nat.succ_ne_zero m), Nat.add_sub_cancel]; ring

theorem sumRange_lin_comb (n : ℕ) (f g h : ℕ → ℝ) (a b c : ℝ) (hp : ∀ m, a * f m + b * g m = c * h m) :
    a * sumRange n f + b * sumRange n g = c * sumRange n h := by
  rw [← sumRange_linear, ← sumRange_smul]
  exact sumRange_congr _ _ _ fun m _ => hp m

/-- derivative of the local quadratic interpolant of the (zero-padded) samples: on `[j − ½, j + ½)`, `j = 1 … n`, the derivative of the
    parabola through `(j − 1, P_{j−1})`, `(j, P_j)`, `(j + 1, P_{j+1})` -/
noncomputable def dPquad (n : ℕ) (P : ℕ → ℝ) (ρ : ℝ) : ℝ :=
  sumRange n (fun m => ((padded n P (m + 2) - padded n P m) / 2
      + (padded n P (m + 2) - 2 * padded n P (m + 1) + padded n P m) * (ρ - ((m + 1 : ℕ) : ℝ)))
    * indicator (Ico (((m + 1 : ℕ) : ℝ) - 1 / 2) (((m + 1 : ℕ) : ℝ) + 1 / 2)) 1 ρ)


/-- the five-term stencil that second-order summation by parts (`three_sbp`) leaves of `U`, `V` -/
def stencil3 (U V : ℕ → ℝ) (k : ℕ) : ℝ :=
  U (k + 1) - V (k + 1) + 2 * V k - (if k = 0 then 0 else U (k - 1)) - (if k = 0 then 0 else V (k - 1))

/-- if the local parabola around `m + 1` enters `P′(ρ)/ρ` through its slope `(Q_{m+2} − Q_m)/2` with a weight `g0 m` and through its
    curvature `Q_{m+2} − 2 Q_{m+1} + Q_m` with a weight `g1 m`, whose line-of-sight integrals are `4π U (m+1)` and `2π V (m+1)`,
    second-order summation by parts turns the inverse Abel integral into a five-term stencil of `U`, `V` applied to the samples -/
theorem threePoint_skeleton (n : ℕ) (P : ℕ → ℝ) (x : ℝ) (g0 g1 : ℕ → ℝ → ℝ) (U V : ℕ → ℝ) (hU : U 0 = 0) (hV : V 0 = 0)
    (l0 : ∀ m, LosInt (g0 m) x) (l1 : ∀ m, LosInt (g1 m) x)
    (h0 : ∀ m, Abel (g0 m) x = 4 * Real.pi * U (m + 1)) (h1 : ∀ m, Abel (g1 m) x = 2 * Real.pi * V (m + 1)) :
    -(1 / (2 * Real.pi)) * Abel (fun ρ => (sumRange n fun m => (padded n P (m + 2) - padded n P m) / 2 * g0 m ρ)
        + sumRange n fun m => (padded n P (m + 2) - 2 * padded n P (m + 1) + padded n P m) * g1 m ρ) x
      = sumRange n (fun k => stencil3 U V k * P k)
    ∧ LosInt (fun ρ => (sumRange n fun m => (padded n P (m + 2) - padded n P m) / 2 * g0 m ρ)
        + sumRange n fun m => (padded n P (m + 2) - 2 * padded n P (m + 1) + padded n P m) * g1 m ρ) x := by
  have s0 := abel_sumRange n (fun m => (padded n P (m + 2) - padded n P m) / 2) g0 x fun m _ => l0 m
  have s1 := abel_sumRange n (fun m => padded n P (m + 2) - 2 * padded n P (m + 1) + padded n P m) g1 x fun m _ => l1 m
  refine ⟨?_, s0.2.add s1.2⟩
  rw [abel_add s0.2 s1.2, s0.1, s1.1, ← sumRange_add,
    sumRange_congr n _ (fun m => 2 * Real.pi * ((padded n P (m + 2) - padded n P m) * U (m + 1)
      + (padded n P (m + 2) - 2 * padded n P (m + 1) + padded n P m) * V (m + 1))) fun m _ => by rw [h0 m, h1 m]; ring,
    sumRange_smul, three_sbp n (padded n P) U V hU hV, padded_of_ge P le_rfl, padded_of_ge P (Nat.le_succ n),
    zero_mul, zero_mul, add_zero, add_zero, mul_neg, neg_mul_neg, ← mul_assoc,
    one_div_mul_cancel (mul_ne_zero two_ne_zero Real.pi_ne_zero), one_mul]
  exact sumRange_congr n _ _ fun k hk => by rw [padded_of_lt P hk, mul_comm, stencil3]

/-- a closed form `f i j` of the half-integer shell `j`, cut off inside pixel `i` (there is no shell `j = 0`) -/
def cutoff (f : ℕ → ℕ → ℝ) (i j : ℕ) : ℝ := if j = 0 ∨ j < i then 0 else f i j

/-- the cut-off shell below column `k`, which `k = 0` does not have -/
theorem ite_pred (i k : ℕ) (a : ℝ) : (if k = 0 then 0 else if k - 1 < i then 0 else a) = if k ≤ i then 0 else a := by
  cases k with
  | zero => rw [if_pos rfl, if_pos i.zero_le]
  | succ m => rw [if_neg m.succ_ne_zero, Nat.add_sub_cancel]; rfl

theorem dPquad_div (n : ℕ) (P : ℕ → ℝ) (ρ : ℝ) :
    dPquad n P ρ / ρ
      = (sumRange n fun m => (padded n P (m + 2) - padded n P m) / 2
          * indicator (Ico (((m + 1 : ℕ) : ℝ) - 1 / 2) (((m + 1 : ℕ) : ℝ) + 1 / 2)) (fun ρ => 1 / ρ) ρ)
        + sumRange n fun m => (padded n P (m + 2) - 2 * padded n P (m + 1) + padded n P m)
          * indicator (Ico (((m + 1 : ℕ) : ℝ) - 1 / 2) (((m + 1 : ℕ) : ℝ) + 1 / 2)) (fun ρ => (ρ - ((m + 1 : ℕ) : ℝ)) / ρ) ρ := by
  unfold dPquad
  rw [div_eq_mul_one_div, PyAbel.sumRange_mul_right, ← sumRange_add]
  refine sumRange_congr n _ _ fun m _ => ?_
  rw [← indicator_one_mul' _ fun ρ => 1 / ρ, ← indicator_one_mul' _ fun ρ => (ρ - ((m + 1 : ℕ) : ℝ)) / ρ]
  ring

/-- every row `i ≥ 0`: the inverse Abel integral of the local quadratic interpolant is the stencil of the cut-off `I0(i, ·)`, `I1(i, ·)` -/
theorem threePoint_row (n i : ℕ) (P : ℕ → ℝ) :
    invAbel (dPquad n P) i = sumRange n (fun k => stencil3 (cutoff tp3I0 i) (cutoff tp3I1 i) k * P k)
      ∧ LosInt (fun ρ => dPquad n P ρ / ρ) i := by
  have hx : (0 : ℝ) ≤ (i : ℝ) := Nat.cast_nonneg i
  have hlo : ∀ m : ℕ, (0 : ℝ) < ((m + 1 : ℕ) : ℝ) - 1 / 2 := fun m => sub_half_pos (Nat.succ_pos m)
  unfold invAbel
  simp only [dPquad_div]
  exact threePoint_skeleton n P i _ _ _ _ (if_pos (Or.inl rfl)) (if_pos (Or.inl rfl))
    (fun m => losInt_shell_inv_of_pos hx (hlo m) (sub_half_le_add_half _))
    (fun m => (abel_shell_lin _ hx (hlo m) (sub_half_le_add_half _)).2)
    (fun m => by simp only [abel_halfshell_inv_all i (m + 1) m.succ_pos, cutoff, m.succ_ne_zero, false_or, ← not_le, ite_not, mul_ite, mul_zero])
    (fun m => by simp only [abel_halfshell_lin_all i (m + 1) m.succ_pos, cutoff, m.succ_ne_zero, false_or, ← not_le, ite_not, mul_ite, mul_zero])

/-- rows `i ≥ 1` of the three-point operator are that stencil -/
theorem threePointD_of_pos {i : ℕ} (hi : 0 < i) (k : ℕ) :
    (threePointD i k : ℝ) = stencil3 (cutoff tp3I0 i) (cutoff tp3I1 i) k := by
  have e : ∀ j, (j = 0 ∨ j < i) ↔ j < i := fun j => or_iff_right_of_imp fun h => h ▸ hi
  unfold threePointD stencil3 cutoff
  simp only [Nat.cast_ofNat, e, ite_pred]
  rw [if_neg (fun h => hi.ne' h.1), if_neg (fun h => hi.ne' h.1)]
  obtain h | ⟨rfl, h⟩ | ⟨rfl, h⟩ | h := node_cases k i
  · simp only [h, if_true, if_false]
    ring
  · simp only [h, if_true, if_false]
    ring
  · simp only [h, if_true, if_false]
    ring
  · simp only [h, if_false]

/-- **three-point operator** (Dasch Eqs. (5)–(7)), rows `i ≥ 1`: the operator applied to any samples is the inverse Abel integral, at
    `r = i`, of their local quadratic interpolant -/
theorem threePoint_eq_invAbel (n i : ℕ) (hi : 0 < i) (P : ℕ → ℝ) :
    sumRange n (fun k => (threePointD i k : ℝ) * P k) = invAbel (dPquad n P) i := by
  rw [(threePoint_row n i P).1]
  exact sumRange_congr n _ _ fun k _ => by rw [threePointD_of_pos hi]

theorem losInt_axis_shellFun (g : ℝ → ℝ) (a b : ℝ) (hg : ContinuousOn g (Icc a b)) :
    LosInt (indicator (Ico a b) g) 0 :=
  losInt_indicator_Ico_axis g hg

theorem abel_axis_shellFun (g : ℝ → ℝ) (a b : ℝ) (ha : 0 < a) (hab : a ≤ b) :
    Abel (indicator (Ico a b) g) 0 = 2 * ∫ z in a..b, g z :=
  abel_indicator_Ico_axis g ha.le hab

theorem abel_axis_halfshell_inv (j : ℕ) (hj : 0 < j) :
    Abel (indicator (Ico ((j : ℝ) - 1 / 2) ((j : ℝ) + 1 / 2)) (fun ρ => 1 / ρ)) 0 = 4 * Real.pi * (tp3I0 0 j : ℝ) := by
  have h := abel_halfshell_inv_all 0 j hj
  rwa [Nat.cast_zero, if_pos (Nat.zero_le j)] at h

theorem abel_axis_halfshell_lin (j : ℕ) (hj : 0 < j) :
    Abel (indicator (Ico ((j : ℝ) - 1 / 2) ((j : ℝ) + 1 / 2)) (fun ρ => (ρ - (j : ℝ)) / ρ)) 0 = 2 * Real.pi * (tp3I1 0 j : ℝ) := by
  have h := abel_halfshell_lin_all 0 j hj
  rwa [Nat.cast_zero, if_pos (Nat.zero_le j)] at h

theorem sumRange_first_two (n : ℕ) (Q : ℕ → ℝ) (a b : ℝ) :
    sumRange n (fun k => Q k * (if k = 0 then a else if k = 1 then b else 0))
      = (if 0 < n then Q 0 * a else 0) + (if 1 < n then Q 1 * b else 0) := by
  have e : ∀ k, Q k * (if k = 0 then a else if k = 1 then b else 0)
      = (if 0 = k then Q k * a else 0) + (if 1 = k then Q k * b else 0) := by
    intro k; rcases k with _ | _ | k <;> simp
  simp only [sumRange_eq_sum, e, Finset.sum_add_distrib, Finset.sum_ite_eq, Finset.mem_range]

/-- derivative of the axis-row interpolant of the three-point operator: the even parabola through `P₀`, `P₁` on `[0, ½)`
    (`P′(ρ) = 2 (P₁ − P₀) ρ`), the local quadratic interpolants beyond -/
noncomputable def dPquadAxis (n : ℕ) (P : ℕ → ℝ) (ρ : ℝ) : ℝ :=
  ρ * ((2 * (padded n P 1 - padded n P 0)) * indicator (Ico (0 : ℝ) (1 / 2)) 1 ρ
    + ((sumRange n fun m => ((padded n P (m + 2) - padded n P m) / 2)
          * indicator (Ico (((m + 1 : ℕ) : ℝ) - 1 / 2) (((m + 1 : ℕ) : ℝ) + 1 / 2)) (fun ρ => 1 / ρ) ρ)
      + (sumRange n fun m => (padded n P (m + 2) - 2 * padded n P (m + 1) + padded n P m)
          * indicator (Ico (((m + 1 : ℕ) : ℝ) - 1 / 2) (((m + 1 : ℕ) : ℝ) + 1 / 2)) (fun ρ => (ρ - ((m + 1 : ℕ) : ℝ)) / ρ) ρ)))

/-- the axis row of the three-point operator: the same stencil, and Dasch's special terms `± 1/π` in the first two columns -/
theorem threePointD_zero (k : ℕ) :
    (threePointD 0 k : ℝ) = stencil3 (cutoff tp3I0 0) (cutoff tp3I1 0) k
      + if k = 0 then 1 / Real.pi else if k = 1 then -(1 / Real.pi) else 0 := by
  unfold threePointD stencil3 cutoff
  simp only [Nat.cast_ofNat, Nat.cast_one, pi_real, true_and, Nat.not_lt_zero, or_false, Nat.succ_ne_zero, if_false]
  obtain (rfl | rfl) | h := (le_or_gt k 1).imp_left Nat.le_one_iff_eq_zero_or_eq_one.mp
  · simp only [if_pos]
    ring
  · simp only [if_neg one_ne_zero, if_pos]
    ring
  · simp only [if_neg (zero_lt_one.trans h).ne', if_neg h.ne', if_neg (Nat.sub_ne_zero_of_lt h)]
    ring

/-- **three-point operator, axis row** -/
theorem threePoint_axis_eq_invAbel (n : ℕ) (P : ℕ → ℝ) :
    sumRange n (fun k => (threePointD 0 k : ℝ) * P k) = invAbel (dPquadAxis n P) 0 := by
  obtain ⟨hS, lS⟩ := threePoint_row n 0 P
  rw [Nat.cast_zero] at hS lS
  have hex : Abel (fun ρ => dPquadAxis n P ρ / ρ) 0
      = Abel (fun ρ => (2 * (padded n P 1 - padded n P 0)) * indicator (Ico (0 : ℝ) (1 / 2)) 1 ρ + dPquad n P ρ / ρ) 0 :=
    abel_congr_except 0 0 fun ρ hρ => by rw [dPquad_div]; exact mul_div_cancel_left₀ _ hρ
  have hax : sumRange n (fun k => (if k = 0 then 1 / Real.pi else if k = 1 then -(1 / Real.pi) else 0) * P k)
      = padded n P 0 * (1 / Real.pi) + padded n P 1 * -(1 / Real.pi) := by
    rw [padded, padded, ite_mul, ite_mul, zero_mul, zero_mul, ← sumRange_first_two]
    exact sumRange_congr n _ _ fun k _ => mul_comm _ _
  have h12 : (0 : ℝ) ≤ 1 / 2 := one_half_pos.le
  unfold invAbel at hS ⊢
  rw [hex, abel_add ((losInt_shell 0 (1 / 2) 0 le_rfl h12).const_mul _) lS, mul_add, hS, abel_const_mul, abel_shell 0 (1 / 2) 0 le_rfl h12,
    hc_sq_sub_zero h12, hc_sq_sub_zero le_rfl, sumRange_congr n _ _ fun k _ => by rw [threePointD_zero, add_mul], sumRange_add, hax,
    add_comm]
  ring
end PyAbel.C09
