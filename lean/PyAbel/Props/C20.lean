/-
C20 — a request the library cannot honour fails loudly, never silently substituted.

Model: PyAbel/Model/Dispatch.lean.  The theorems quantify over every request (all methods,
direction classes, shapes, option validity flags).

`supported` is the conjunction of the checks `abel.Transform` makes before it calls the method
(`frontOK`) and of the method function's own checks on what it is handed (`methodOK`); `dispatch_eq`
says that `dispatch` answers a supported request with the requested method's operator in the
requested direction (`op`) and raises on every other one.  The theorems of the property follow from it.
-/
import PyAbel.Model.Dispatch
import Mathlib.Logic.Basic

namespace PyAbel.C20
open PyAbel

/-- what the function of method `m` returns for direction `d` once all its checks have passed -/
def op (m : Method) : Dir → Outcome
  | .inverse => .inverseOp m
  | .forward => .forwardOp m
  | .other => .raise

/-- the checks at the top of the method functions (`direction`, minimal width, linbasex's odd square image,
    `reg` of daun and rbasex, `out` of rbasex), on the shape and options the function receives -/
def methodOK (m : Method) (d : Dir) (rows cols : Nat) (o : NamedOpts) : Bool :=
  (d = .inverse ∨ (d = .forward ∧ m.implementsForward)) &&
  (m ≠ .two_point || 2 ≤ cols) && (m ≠ .three_point || 3 ≤ cols) &&
  (m ≠ .linbasex || (cols % 2 = 1 && rows = cols)) &&
  (m ≠ .daun || o.regOK) && (m ≠ .rbasex || d = .forward || o.regOK) &&
  (m ≠ .rbasex || o.outOK)

/-- the checks of `abel.Transform` before the method function is called: `_verify_some_inputs`, `_center_image`
    and, for the methods that work on quadrants, `get_image_quadrants` -/
def frontOK (r : Request) (m : Method) : Bool :=
  !r.viaTransform || (!r.oneD && 3 ≤ r.rows && r.anyQuadrant &&
    (!r.centring || (r.opts.originOK && r.opts.cropOK)) &&
    (m = .linbasex || m = .rbasex || r.opts.symmetrizeOK))

/-- the height or width the method function receives, from that of the image: `abel.Transform` hands one quadrant to
    every method but linbasex and rbasex -/
def sizeFor (r : Request) (m : Method) (n : Nat) : Nat :=
  if r.viaTransform ∧ m ≠ .linbasex ∧ m ≠ .rbasex then n / 2 + n % 2 else n

/-! A chain of guards that raise is one test of the conjunction of their negations: `methodDispatch` is written the
    first way, `methodOK` the second. -/

private theorem raise_else (c : Prop) [Decidable c] (x : Outcome) :
    (if c then Outcome.raise else x) = if ¬c then x else .raise :=
  (ite_not c x .raise).symm

theorem methodDispatch_eq (m : Method) (d : Dir) (rows cols : Nat) (o : NamedOpts) :
    methodDispatch m d rows cols o = if methodOK m d rows cols o then op m d else .raise := by
  cases m <;> simp [methodDispatch, methodOK, Method.implementsForward] <;> cases d <;> simp [op, raise_else, ite_and]

theorem dispatch_none {r : Request} (h : r.method = none) : dispatch r = .raise := by
  unfold dispatch
  rw [h]
  simp

theorem dispatch_some {r : Request} {m : Method} (h : r.method = some m) :
    dispatch r = if frontOK r m then methodDispatch m r.dir (sizeFor r m r.rows) (sizeFor r m r.cols) r.opts else .raise := by
  unfold dispatch frontOK sizeFor
  rw [h]
  -- the guards of `abel.Transform` in sequence against their conjunction, for the three ways the method is reached
  grind

theorem supported_none {r : Request} (h : r.method = none) : supported r = false := by
  unfold supported
  rw [h]

theorem supported_some {r : Request} {m : Method} (h : r.method = some m) :
    supported r = (frontOK r m && methodOK m r.dir (sizeFor r m r.rows) (sizeFor r m r.cols) r.opts) := by
  -- linbasex is handed the whole image
  have hl : (m ≠ .linbasex || (sizeFor r m r.cols % 2 = 1 && sizeFor r m r.rows = sizeFor r m r.cols))
      = (m ≠ .linbasex || (r.cols % 2 = 1 && r.rows = r.cols)) := by
    by_cases hm : m = .linbasex
    · simp [hm, sizeFor]
    · simp [hm]
  simp only [supported, h, frontOK, methodOK, hl]
  simp only [sizeFor, Bool.and_assoc]
  exact Bool.and_left_comm ..

theorem dispatch_eq {r : Request} {m : Method} (h : r.method = some m) :
    dispatch r = if supported r then op m r.dir else .raise := by
  rw [dispatch_some h, methodDispatch_eq, supported_some h]
  simp only [Bool.and_eq_true, ite_and]

/-- **Never substituted**: a supported request is answered by exactly the requested method in
    exactly the requested direction. -/
theorem supported_honoured (r : Request) (h : supported r = true) :
    ∃ m, r.method = some m ∧
      ((r.dir = .inverse ∧ dispatch r = .inverseOp m) ∨
       (r.dir = .forward ∧ m.implementsForward = true ∧ dispatch r = .forwardOp m)) := by
  cases hm : r.method with
  | none => rw [supported_none hm] at h; cases h
  | some m =>
    have ho : dispatch r = op m r.dir := by rw [dispatch_eq hm, if_pos h]
    refine ⟨m, rfl, ?_⟩
    simp only [supported, hm, Bool.and_eq_true, decide_eq_true_eq] at h
    rcases h.1.1.1.1.1.1.1 with hi | ⟨hf, hfw⟩
    · exact .inl ⟨hi, by rw [ho, hi]; rfl⟩
    · exact .inr ⟨hf, hfw, by rw [ho, hf]; rfl⟩

theorem unsupported_raises (r : Request) (h : supported r = false) : dispatch r = .raise := by
  cases hm : r.method with
  | none => exact dispatch_none hm
  | some m => rw [dispatch_eq hm, h]; rfl

/-- A request is honoured iff it is supported; everything else raises. -/
theorem raises_iff_unsupported (r : Request) : dispatch r = .raise ↔ supported r = false := by
  refine ⟨fun h => ?_, unsupported_raises r⟩
  cases hs : supported r with
  | false => rfl
  | true => obtain ⟨m, -, ⟨-, ho⟩ | ⟨-, -, ho⟩⟩ := supported_honoured r hs <;> cases ho.symm.trans h

/-- An inverse operator is only ever the answer to an `inverse` request … -/
theorem inverse_only_for_inverse (r : Request) (m : Method) (h : dispatch r = .inverseOp m) :
    r.dir = .inverse ∧ r.method = some m := by
  cases hs : supported r with
  | false => cases (unsupported_raises r hs).symm.trans h
  | true =>
    obtain ⟨m', hm, ⟨hd, ho⟩ | ⟨-, -, ho⟩⟩ := supported_honoured r hs <;> cases ho.symm.trans h
    exact ⟨hd, hm⟩

/-- … and a forward operator only to a `forward` request, by a method that implements it.
    In particular **a forward request is never answered with an inverse transform**. -/
theorem forward_only_for_forward (r : Request) (m : Method) (h : dispatch r = .forwardOp m) :
    r.dir = .forward ∧ r.method = some m ∧ m.implementsForward = true := by
  cases hs : supported r with
  | false => cases (unsupported_raises r hs).symm.trans h
  | true =>
    obtain ⟨m', hm, ⟨-, ho⟩ | ⟨hd, hf, ho⟩⟩ := supported_honoured r hs <;> cases ho.symm.trans h
    exact ⟨hd, hm, hf⟩

theorem forward_never_inverse (r : Request) (hf : r.dir = .forward) (m : Method) :
    dispatch r ≠ .inverseOp m := by
  intro h
  have := (inverse_only_for_inverse r m h).1
  rw [hf] at this
  cases this

/-! non-vacuity: supported requests exist in each outcome class -/
example : dispatch ⟨true, some .hansenlaw, .forward, false, 5, 7, false, true, ⟨true, true, true, true, true⟩⟩
    = .forwardOp .hansenlaw := by decide
example : dispatch ⟨true, some .linbasex, .forward, false, 7, 7, false, true, ⟨true, true, true, true, true⟩⟩
    = .raise := by decide
example : dispatch ⟨false, some .three_point, .inverse, false, 4, 3, false, true, ⟨true, true, true, true, true⟩⟩
    = .inverseOp .three_point := by decide

/-! ### no fallback, irrelevant options -/

/-- Whatever is returned names the requested method (no fallback to another method). -/
theorem outcome_names_requested_method (r : Request) (m : Method)
    (h : dispatch r = .inverseOp m ∨ dispatch r = .forwardOp m) : r.method = some m := by
  rcases h with h | h
  · exact (inverse_only_for_inverse r m h).2
  · exact (forward_only_for_forward r m h).2.1

/-- The outcome is a function of the method's own shape checks only through the width the method
    receives: two requests that differ only in an option flag the method never consults get the
    same outcome — e.g. `symmetrize_method` is irrelevant outside `abel.Transform`. -/
theorem symmetrize_irrelevant_direct (r : Request) (b : Bool) (h : r.viaTransform = false) :
    dispatch { r with opts := { r.opts with symmetrizeOK := b } } = dispatch r := by
  unfold dispatch
  simp only [h, Bool.false_eq_true, if_false]
  cases r.method with
  | none => rfl
  | some m =>
    -- `methodOK` does not read the flag
    simp only [methodDispatch_eq]
    rfl

/-- With every named option invalid, the checks that pass are those that consult none: they pass whatever the options. -/
theorem supported_of_invalid_opts {r : Request}
    (h : supported { r with opts := ⟨false, false, false, false, false⟩ } = true) : supported r = true := by
  cases hm : r.method <;>
    simp only [supported, hm, Bool.and_eq_true, Bool.or_eq_true, Bool.or_false, Bool.and_false, Bool.false_eq_true] at h ⊢
  obtain ⟨⟨⟨⟨⟨⟨⟨hd, hfr⟩, h2⟩, h3⟩, hl⟩, hdn⟩, hrf⟩, hrb⟩ := h
  refine ⟨⟨⟨⟨⟨⟨⟨hd, hfr.imp_right ?_⟩, h2⟩, h3⟩, hl⟩, .inl hdn⟩, .inl hrf⟩, .inl hrb⟩
  exact fun ⟨⟨h1, hc⟩, hm⟩ => ⟨⟨h1, .inl hc⟩, .inl hm⟩

/-- Invalidating option names never rescues a request: if a request raises, it still raises
    with every named option invalid. -/
theorem raise_mono_opts (r : Request) (h : dispatch r = .raise) :
    dispatch { r with opts := ⟨false, false, false, false, false⟩ } = .raise := by
  rw [raises_iff_unsupported, Bool.eq_false_iff] at h ⊢
  exact fun h' => h (supported_of_invalid_opts h')

example : supported ⟨true, some .rbasex, .forward, false, 5, 7, true, true, ⟨true, true, false, false, true⟩⟩ = true := by decide

end PyAbel.C20
