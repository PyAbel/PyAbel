/-
C04 — every transform is a fixed linear, row-independent operator scaling with dr.

All matrix methods (basex, daun, Dasch family, rbasex radial transforms, linbasex's least-squares
operator) act on a row as `x ↦ x · M` or `x ↦ M x` for a matrix that does not depend on the data;
daun's unregularised inverse is a triangular solve.  Linearity and dr scaling are proved for
these forms over any field; positive homogeneity for the NNLS solvers over ℝ.
-/
import PyAbel.Lemmas.Linalg
import PyAbel.Props.C17

set_option linter.unusedSectionVars false

namespace PyAbel.C04
open PyAbel

variable {K : Type} [Field K]

/-! ### linearity -/

theorem rowMatrix_linear (n : ℕ) (M : ℕ → ℕ → K) (a b : K) (x y : ℕ → K) (j : ℕ) :
    vecMat n (fun k => a * x k + b * y k) M j = a * vecMat n x M j + b * vecMat n y M j := by
  simp only [vecMat, ← sumRange_linear, add_mul, mul_assoc]

theorem operator_linear (n : ℕ) (D : ℕ → ℕ → K) (a b : K) (x y : ℕ → K) (i : ℕ) :
    matVec n D (fun k => a * x k + b * y k) i = a * matVec n D x i + b * matVec n D y i := by
  simp only [matVec, ← sumRange_linear, mul_add, mul_left_comm]

/-- the triangular solve used by daun's unregularised inverse is linear in the data -/
theorem triangular_solve_linear (n : ℕ) (U : ℕ → ℕ → K) (a b : K) (d1 d2 : ℕ → K) (i : ℕ) :
    (backSubst U (fun k => a * d1 k + b * d2 k) n).getD i 0
      = a * (backSubst U d1 n).getD i 0 + b * (backSubst U d2 n).getD i 0 :=
  backSubstAux_linear U d1 d2 a b n n i

/-! ### each output row depends only on the same input row

An image transform is the row map applied to every row: -/

def applyRows (f : (ℕ → K) → (ℕ → K)) (X : ℕ → ℕ → K) : ℕ → ℕ → K := fun r => f (X r)

theorem row_independent (f : (ℕ → K) → (ℕ → K)) (X Y : ℕ → ℕ → K) (r : ℕ) (h : X r = Y r) :
    applyRows f X r = applyRows f Y r := by simp [applyRows, h]

/-! ### dr scaling: forward ∝ dr, inverse ∝ 1/dr  (as coded: `recon *= dr` / `recon /= dr`) -/

theorem forward_scales (n : ℕ) (M : ℕ → ℕ → K) (dr : K) (x : ℕ → K) (j : ℕ) :
    vecMat n x (fun k j => M k j * dr) j = vecMat n x M j * dr := by
  simp only [vecMat, sumRange_mul_right, mul_assoc]

theorem inverse_scales (n : ℕ) (U : ℕ → ℕ → K) (dr : K) (d : ℕ → K) (i : ℕ) :
    (backSubst U (fun k => (1 / dr) * d k + 0 * d k) n).getD i 0 = (1 / dr) * (backSubst U d n).getD i 0 := by
  rw [triangular_solve_linear, zero_mul, add_zero]

/-! ### the non-negativity solvers are positively homogeneous -/

open PyAbel.C17 in
theorem nnls_pos_homogeneous (m n : ℕ) (A : ℕ → ℕ → ℝ) (b x : ℕ → ℝ) (c : ℝ) (hc : 0 < c)
    (hx : IsNNLS m n A b x) : IsNNLS m n A (fun i => c * b i) (fun j => c * x j) := by
  have scale : ∀ y : ℕ → ℝ, resid m n A (fun i => c * b i) (fun j => c * y j) = c ^ 2 * resid m n A b y := by
    intro y
    unfold resid
    rw [← sumRange_smul]
    exact sumRange_congr _ _ _ fun i _ => by rw [matVec_smul]; ring
  refine ⟨fun j hj => mul_nonneg hc.le (hx.1 j hj), fun y hy => ?_⟩
  have h3 : (fun j => c * (y j / c)) = y := funext fun j => mul_div_cancel₀ _ hc.ne'
  rw [scale x, ← h3, scale]
  exact mul_le_mul_of_nonneg_left (hx.2 _ fun j hj => div_nonneg (hy j hj) hc.le) (sq_nonneg c)

end PyAbel.C04
