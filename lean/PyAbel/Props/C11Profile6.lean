/-
C11 — TransformPair profile 6 (Buie et al., Table 1, № 7; abel/tools/transform_pairs.py `profile6`), the one shipped pair that is not
piecewise polynomial: source `(1 − r²)^{−3/2} exp[c (1 − 1/(1 − r²))]`, `c = 1.1²`.  Its Abel integral is computed by the substitution
`z = a w/√(1 + w²)` (`a = √(1 − x²)`), which turns the line-of-sight integrand into a Gaussian in `w` (Mathlib: one-dimensional change of
variables for injective differentiable maps, `integral_gaussian_Ioi`).
-/
import PyAbel.Props.C11Profiles
import Mathlib.MeasureTheory.Function.JacobianOneDim
import Mathlib.Analysis.SpecialFunctions.Gaussian.GaussianIntegral
open MeasureTheory Set
namespace PyAbel.C11
open PyAbel

/-- the substitution `z = a w / √(1 + w²)` maps `(0, ∞)` onto `(0, a)` -/
noncomputable def phi (a w : ℝ) : ℝ := a * w / Real.sqrt (1 + w ^ 2)

theorem phi_sq (a w : ℝ) : a ^ 2 - phi a w ^ 2 = a ^ 2 / (1 + w ^ 2) := by
  have h : (0 : ℝ) < 1 + w ^ 2 := by positivity
  rw [phi, div_pow, Real.sq_sqrt h.le, mul_pow, eq_div_iff h.ne', sub_mul, div_mul_cancel₀ _ h.ne']
  ring

theorem phi_image (a : ℝ) (ha : 0 < a) : phi a '' Ioi 0 = Ioo 0 a := by
  ext z
  constructor
  · rintro ⟨w, hw, rfl⟩
    have hw0 : (0 : ℝ) < w := hw
    exact ⟨by unfold phi; positivity, lt_of_pow_lt_pow_left₀ 2 ha.le (sub_pos.mp (by rw [phi_sq]; positivity))⟩
  · rintro ⟨hz0, hza⟩
    have hd : 0 < a ^ 2 - z ^ 2 := sub_pos.mpr (pow_lt_pow_left₀ hza hz0.le two_ne_zero)
    have hsd : 0 < Real.sqrt (a ^ 2 - z ^ 2) := Real.sqrt_pos.mpr hd
    refine ⟨z / Real.sqrt (a ^ 2 - z ^ 2), div_pos hz0 hsd, ?_⟩
    -- `1 + w² = a²/(a² − z²)`, so `√(1 + w²) = a/√(a² − z²)`
    rw [phi, div_pow, Real.sq_sqrt hd.le, one_add_div hd.ne', sub_add_cancel, Real.sqrt_div (sq_nonneg a), Real.sqrt_sq ha.le,
      mul_div_assoc', div_div_div_cancel_right₀ hsd.ne', mul_div_cancel_left₀ _ ha.ne']

theorem phi_hasDerivAt (a w : ℝ) :
    HasDerivAt (phi a) (a / ((1 + w ^ 2) * Real.sqrt (1 + w ^ 2))) w := by
  have h : (0 : ℝ) < 1 + w ^ 2 := by positivity
  have hs := (Real.sqrt_pos.mpr h).ne'
  refine (((hasDerivAt_id' w).const_mul a).div (((hasDerivAt_pow 2 w).const_add 1).sqrt h.ne') hs).congr_deriv ?_
  field_simp
  rw [Real.sq_sqrt h.le]
  ring

theorem phi_injOn (a : ℝ) (ha : 0 < a) : InjOn (phi a) (Ioi 0) :=
  (strictMono_of_deriv_pos fun w => by rw [(phi_hasDerivAt a w).deriv]; positivity).injective.injOn

/-- the source of profile 6 as a function of the radius, for any constant `c` in the exponent -/
noncomputable def g6 (c ρ : ℝ) : ℝ := Real.exp (c * (1 - 1 / (1 - ρ ^ 2))) / Real.sqrt (1 - ρ ^ 2) ^ 3

/-- **the Abel integral of profile 6's source** (Buie et al., Table 1, № 7), by the substitution `z = a w/√(1 + w²)` and the Gaussian integral -/
theorem abel_g6 (c x : ℝ) (hc0 : 0 < c) (hx0 : 0 ≤ x) (hx1 : x < 1) :
    Abel (indicator (Ico 0 1) (g6 c)) x
      = Real.exp (c * (1 - 1 / (1 - x ^ 2))) * Real.sqrt Real.pi / Real.sqrt c / Real.sqrt (1 - x ^ 2) := by
  have h1x : 0 < 1 - x ^ 2 := sub_pos.mpr (pow_lt_one₀ hx0 hx1 two_ne_zero)
  rw [abel_indicator_Ico _ x le_rfl zero_le_one, hc_sq_sub_of_le le_rfl hx0, hc_eq_sqrt, one_pow]
  set a := Real.sqrt (1 - x ^ 2)
  have ha : 0 < a := Real.sqrt_pos.mpr h1x
  have ha2 : a ^ 2 = 1 - x ^ 2 := Real.sq_sqrt h1x.le
  rw [intervalIntegral.integral_of_le ha.le, integral_Ioc_eq_integral_Ioo, ← phi_image a ha,
    integral_image_eq_integral_abs_deriv_smul measurableSet_Ioi (fun w _ => (phi_hasDerivAt a w).hasDerivWithinAt) (phi_injOn a ha),
    setIntegral_congr_fun (g := fun w => Real.exp (c * (1 - 1 / a ^ 2)) / a ^ 2 * Real.exp (-(c / a ^ 2) * w ^ 2)) measurableSet_Ioi ?_,
    integral_const_mul, integral_gaussian_Ioi, ← ha2, div_div_eq_mul_div, Real.sqrt_div (by positivity), Real.sqrt_mul Real.pi_pos.le,
    Real.sqrt_sq ha.le]
  · have hsc : 0 < Real.sqrt c := Real.sqrt_pos.mpr hc0
    field_simp
  -- in the substituted variable the integrand is a Gaussian
  intro w _
  have hp : (0 : ℝ) < 1 + w ^ 2 := by positivity
  have hl : 1 - los x (phi a w) ^ 2 = a ^ 2 / (1 + w ^ 2) := by rw [los_sq, ← phi_sq a w, ha2, sub_sub]
  have hexp : c * (1 - 1 / (a ^ 2 / (1 + w ^ 2))) = c * (1 - 1 / a ^ 2) + -(c / a ^ 2) * w ^ 2 := by rw [one_div_div]; ring
  beta_reduce
  rw [abs_of_pos (by positivity), smul_eq_mul, g6, hl, hexp, Real.exp_add, Real.sqrt_div (sq_nonneg a), Real.sqrt_sq ha.le]
  field_simp
  exact Real.sq_sqrt hp.le

open PyAbel.Profiles in
/-- **profile 6** (not a polynomial: Gaussian in the substituted variable) -/
theorem profile6_pair (x : ℝ) (h0 : 0 ≤ x) (h1 : x < 1) :
    proj6 x = Abel (fun r => if 0 ≤ r ∧ r < 1 then source6 r else 0) x := by
  have hfun : (fun r : ℝ => if 0 ≤ r ∧ r < 1 then source6 r else 0) = indicator (Ico 0 1) (g6 ((1.1 : ℝ) ^ 2)) := by
    funext r
    rw [indicator_apply]
    refine if_congr Iff.rfl ?_ rfl
    simp only [source6, g6, Profiles.n, Nat.cast_one, distr_pow_eq, sqrt_real, exp_real]
  rw [hfun, abel_g6 _ x (by norm_num) h0 h1, Real.sqrt_sq (by norm_num)]
  simp only [proj6, Profiles.a, Profiles.n, Nat.cast_one, distr_pow_eq, sqrt_real, exp_real, pi_real, ← sq, one_pow]
end PyAbel.C11
