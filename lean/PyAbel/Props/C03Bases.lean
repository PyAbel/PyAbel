/-
C03 — the hypotheses of the exact round trip (lower-triangular basis matrix with non-vanishing diagonal) hold at every size for
the Daun degree-1 and degree-2 bases and for every rBasex radial matrix `P[n]`: the entries above the diagonal vanish because the
basis function lies entirely inside the cylinder of the line of sight, and the diagonal entry is the Abel integral of a
non-negative function that is positive on an interval of the line of sight.  Hence `inverse(forward(X)) = X` and
`forward(inverse(X)) = X` for these bases, every size, every row (corollaries of `daun_inverse_forward` / `daun_forward_inverse`).
-/
import PyAbel.Props.C03
import PyAbel.Props.C09Rbasex

open MeasureTheory Set

namespace PyAbel.C03
open PyAbel PyAbel.C09

/-- the Abel integral of a function that is non-negative along the line of sight and positive on a stretch of it is positive -/
theorem abel_pos {f : ℝ → ℝ} {x : ℝ} (hint : LosInt f x) (hnn : ∀ z, 0 < z → 0 ≤ f (Real.sqrt (x ^ 2 + z ^ 2)))
    (hcont : Continuous fun z : ℝ => f (Real.sqrt (x ^ 2 + z ^ 2))) (b : ℝ) (hb : 0 < b)
    (hpos : ∀ z ∈ Ioo (0 : ℝ) b, 0 < f (Real.sqrt (x ^ 2 + z ^ 2))) : 0 < Abel f x := by
  have h1 : 0 < ∫ z in (0 : ℝ)..b, f (Real.sqrt (x ^ 2 + z ^ 2)) :=
    intervalIntegral.intervalIntegral_pos_of_pos_on (hcont.intervalIntegrable 0 b) hpos hb
  rw [intervalIntegral.integral_of_le hb.le] at h1
  -- the integral over the stretch `(0, b]` is at most the integral over the whole line of sight
  exact mul_pos two_pos (h1.trans_le (setIntegral_mono_set hint
    ((ae_restrict_iff' measurableSet_Ioi).mpr (Filter.Eventually.of_forall hnn)) (Filter.Eventually.of_forall fun _ hz => hz.1)))

theorem abel_zero_of_support {f : ℝ → ℝ} {x R : ℝ} (hx : 0 ≤ x) (hR : R ≤ x) (hsupp : ∀ ρ, R ≤ ρ → f ρ = 0) : Abel f x = 0 :=
  abel_eq_zero_of_support hsupp hR

theorem hat_nonneg (j : ℕ) (ρ : ℝ) : 0 ≤ hat j ρ := le_max_left _ _

theorem hat_zero_of_ge (j : ℕ) (ρ : ℝ) (h : (j : ℝ) + 1 ≤ ρ) : hat j ρ = 0 :=
  max_eq_left (sub_nonpos.mpr ((le_sub_iff_add_le'.mpr h).trans (le_abs_self _)))

theorem hat_pos (j : ℕ) (ρ : ℝ) (h1 : (j : ℝ) ≤ ρ) (h2 : ρ < (j : ℝ) + 1) : 0 < hat j ρ := by
  unfold hat
  rw [abs_of_nonneg (sub_nonneg.mpr h1)]
  exact lt_max_of_lt_right (sub_pos.mpr (sub_lt_iff_lt_add'.mpr h2))

theorem hat_continuous (j : ℕ) : Continuous (hat j) := by unfold hat; fun_prop

/-- along the line of sight at distance `j`, the radius stays inside `[j, j + 1)` for `0 < z < 1` -/
theorem los_window (j : ℕ) (z : ℝ) (hz : z ∈ Ioo (0 : ℝ) 1) :
    (j : ℝ) ≤ Real.sqrt ((j : ℝ) ^ 2 + z ^ 2) ∧ Real.sqrt ((j : ℝ) ^ 2 + z ^ 2) < (j : ℝ) + 1 := by
  have hj : (0 : ℝ) ≤ j := Nat.cast_nonneg j
  have hz2 : z ^ 2 < 1 := (sq_lt_one_iff₀ hz.1.le).mpr hz.2
  exact ⟨le_los _ z, (Real.sqrt_lt' (Nat.cast_add_one_pos j)).mpr (by rw [add_sq]; linarith only [hz2, hj])⟩

theorem abel_window_pos {b w : ℝ → ℝ} (j : ℕ) (hb0 : ∀ ρ, 0 ≤ b ρ) (hbz : ∀ ρ, (j : ℝ) + 1 ≤ ρ → b ρ = 0)
    (hbp : ∀ ρ, (j : ℝ) ≤ ρ → ρ < (j : ℝ) + 1 → 0 < b ρ) (hbc : Continuous b)
    (hw : ∀ z, 0 < w (los j z)) (hwc : Continuous fun z => w (los j z)) : 0 < Abel (fun ρ => b ρ * w ρ) j := by
  have hcont : Continuous fun z => b (los j z) * w (los j z) := (hbc.comp (los_continuous j)).mul hwc
  refine abel_pos (losInt_of_support (fun ρ h => mul_eq_zero_of_left (hbz ρ h) _) hcont)
    (fun z _ => mul_nonneg (hb0 _) (hw z).le) hcont 1 one_pos fun z hz => ?_
  obtain ⟨h1, h2⟩ := los_window j z hz
  exact mul_pos (hbp _ h1 h2) (hw z)

theorem abel_eq_zero_of_lt {b : ℝ → ℝ} {j i : ℕ} (hbz : ∀ ρ, (j : ℝ) + 1 ≤ ρ → b ρ = 0) (h : j < i) : Abel b i = 0 :=
  abel_eq_zero_of_support hbz (by exact_mod_cast Nat.succ_le_of_lt h)

theorem daun1_lower_triangular (j i : ℕ) (h : j < i) : (daun1 j i : ℝ) = 0 :=
  (daun1_eq_abel j i).trans (abel_eq_zero_of_lt (hat_zero_of_ge j) h)

theorem daun1_diag_pos (j : ℕ) : (0 : ℝ) < daun1 j j := by
  rw [daun1_eq_abel]
  simpa only [mul_one] using abel_window_pos (w := fun _ => 1) j (hat_nonneg j) (hat_zero_of_ge j) (hat_pos j) (hat_continuous j)
    (fun _ => one_pos) continuous_const

/-- **Daun degree 1: exact round trip at every size** -/
theorem daun1_roundtrip (n : ℕ) (x : ℕ → ℝ) (i : ℕ) (hi : i < n) :
    daunInv n (fun j i => (daun1 j i : ℝ)) (daunFwd n (fun j i => daun1 j i) x) i = x i ∧
    daunFwd n (fun j i => (daun1 j i : ℝ)) (daunInv n (fun j i => daun1 j i) x) i = x i :=
  daun_roundtrip n _ daun1_diag_pos daun1_lower_triangular x i hi

theorem bspline2_nonneg (j : ℕ) (ρ : ℝ) : 0 ≤ bspline2 j ρ := by
  unfold bspline2
  split_ifs with h1 h2
  · have h3 : (ρ - j) ^ 2 ≤ (1 / 2) ^ 2 := sq_le_sq' (abs_le.mp h1).1 (abs_le.mp h1).2
    linarith only [h3]
  · exact mul_nonneg zero_le_two (sq_nonneg _)
  · exact le_rfl

theorem bspline2_zero_of_ge (j : ℕ) (ρ : ℝ) (h : (j : ℝ) + 1 ≤ ρ) : bspline2 j ρ = 0 := by
  have h1 : 1 ≤ ρ - j := le_sub_iff_add_le'.mpr h
  unfold bspline2
  rw [abs_of_nonneg (zero_le_one.trans h1), if_neg (not_le.mpr (one_half_lt_one.trans_le h1))]
  split_ifs with h2
  · rw [le_antisymm h2 h1, sub_self, zero_pow two_ne_zero, mul_zero]
  · rfl

theorem bspline2_pos (j : ℕ) (ρ : ℝ) (h1 : (j : ℝ) ≤ ρ) (h2 : ρ < (j : ℝ) + 1) : 0 < bspline2 j ρ := by
  unfold bspline2
  rw [abs_of_nonneg (sub_nonneg.mpr h1)]
  split_ifs with h3 h4
  · have h5 : (ρ - j) ^ 2 ≤ (1 / 2) ^ 2 := pow_le_pow_left₀ (sub_nonneg.mpr h1) h3 2
    linarith only [h5]
  · exact mul_pos two_pos (sq_pos_of_neg (by linarith only [h2]))
  · exact absurd (sub_le_iff_le_add'.mpr h2.le) h4

theorem bspline2_continuous (j : ℕ) : Continuous (bspline2 j) := by
  rw [funext (bspline2_eq_qramps j)]
  have := qramp_continuous
  fun_prop

theorem daun2_lower_triangular (j i : ℕ) (h : j < i) : (daun2 j i : ℝ) = 0 :=
  (daun2_eq_abel j i).trans (abel_eq_zero_of_lt (bspline2_zero_of_ge j) h)

theorem daun2_diag_pos (j : ℕ) : (0 : ℝ) < daun2 j j := by
  rw [daun2_eq_abel]
  simpa only [mul_one] using abel_window_pos (w := fun _ => 1) j (bspline2_nonneg j) (bspline2_zero_of_ge j) (bspline2_pos j)
    (bspline2_continuous j) (fun _ => one_pos) continuous_const

/-- **Daun degree 2: exact round trip at every size** -/
theorem daun2_roundtrip (n : ℕ) (x : ℕ → ℝ) (i : ℕ) (hi : i < n) :
    daunInv n (fun j i => (daun2 j i : ℝ)) (daunFwd n (fun j i => daun2 j i) x) i = x i ∧
    daunFwd n (fun j i => (daun2 j i : ℝ)) (daunInv n (fun j i => daun2 j i) x) i = x i :=
  daun_roundtrip n _ daun2_diag_pos daun2_lower_triangular x i hi

theorem rbasexP_lower_triangular (n R r : ℕ) (h : R < r) : (RbxBasis.P n R r : ℝ) = 0 :=
  (rbasex_P_conventions n R r).1 h (Nat.ne_zero_of_lt h)

theorem rbasexP_eq_abel (n R r : ℕ) (hr : 1 ≤ r) :
    (RbxBasis.P n R r : ℝ) = Abel (fun ρ => hat R ρ * ((r : ℝ) / ρ) ^ n) r := by
  rcases lt_or_ge R r with hlt | hge
  · -- above the diagonal the hat lies inside the cylinder of the line of sight
    rw [rbasexP_lower_triangular n R r hlt]
    exact (abel_eq_zero_of_lt (fun ρ hρ => mul_eq_zero_of_left (hat_zero_of_ge R ρ hρ) _) hlt).symm
  · rw [(rbasex_P_conventions n R r).2.2.2 hr hge, rbasex_p_eq_abel n R r hr hge]

theorem rbasexP_diag_pos (n R : ℕ) : (0 : ℝ) < RbxBasis.P n R R := by
  rcases Nat.eq_zero_or_pos R with rfl | hR
  · rw [(rbasex_P_conventions n 0 0).2.2.1]; exact one_pos
  · rw [rbasexP_eq_abel n R R hR]
    have hx : (0 : ℝ) < R := Nat.cast_pos.mpr hR
    exact abel_window_pos R (hat_nonneg R) (hat_zero_of_ge R) (hat_pos R) (hat_continuous R)
      (fun z => pow_pos (fr_pos hx z) n) ((fr_continuous hx).pow n)

/-- **rBasex: for every angular order the radial transform matrix is invertible by substitution, and forward and inverse undo each
    other exactly, at every `Rmax`** (`P[n]` is applied to profiles as `profile · P[n]`, its inverse is the triangular solve) -/
theorem rbasex_radial_roundtrip (n N : ℕ) (x : ℕ → ℝ) (i : ℕ) (hi : i < N) :
    daunInv N (fun R r => (RbxBasis.P n R r : ℝ)) (daunFwd N (fun R r => RbxBasis.P n R r) x) i = x i ∧
    daunFwd N (fun R r => (RbxBasis.P n R r : ℝ)) (daunInv N (fun R r => RbxBasis.P n R r) x) i = x i :=
  daun_roundtrip N _ (rbasexP_diag_pos n) (rbasexP_lower_triangular n) x i hi

end PyAbel.C03
