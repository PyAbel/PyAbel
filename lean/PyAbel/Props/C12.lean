/-
C12 — Centering moves exactly the requested point to the image centre.

Model: PyAbel/Model/Center.lean (set_center on the whole-pixel path, center_image trimming).
Statements are per axis (the code treats the axes independently; `setCenter` is the product)
and then lifted to images.  `n` is the axis length, `o` the absolute origin, `0 ≤ o < n`.
-/
import PyAbel.Model.Center
import Mathlib.Data.Int.Order.Basic
import Mathlib.Tactic.SplitIfs

namespace PyAbel.C12
open PyAbel

/-- the map into a frame of `size` pixels that puts pixel `k` of an axis of length `n` at `k + δ`; cells that receive nothing are `none`.
    By unfolding, `maintain_size` is `translate n n (n/2 - o)` and `maintain_data` is `translate _ n (d - o)`, `d = max o (n-1-o)` -/
def translate (size n : Nat) (δ : Int) : AxisMap :=
  ⟨size, fun i => if 0 ≤ (i : Int) - δ ∧ (i : Int) - δ < n then some ((i : Int) - δ).toNat else none⟩

theorem translate_src (size n : Nat) (δ : Int) (i k : Nat) :
    (translate size n δ).src i = some k ↔ ((i : Int) = k + δ ∧ k < n) := by
  simp only [translate]
  split_ifs with h
  · rw [Option.some.injEq]; omega
  · simp only [false_iff]; omega

theorem translate_centre (size n : Nat) {δ o : Int} (h0 : 0 ≤ o) (h1 : o < n) (hc : ((size / 2 : Nat) : Int) = o + δ) :
    (translate size n δ).src (size / 2) = some o.toNat :=
  (translate_src size n δ _ _).2 ⟨by rw [Int.toNat_of_nonneg h0, hc], (Int.toNat_lt h0).2 h1⟩

/-! ### `maintain_size`: same length; a pure translation by `n/2 - o`; vacated cells are zero
(`none`), shifted-out pixels are dropped -/

theorem maintain_size_size (n : Nat) (o : Int) : (centerAxis .maintainSize n o).size = n := rfl

theorem maintain_size_spec (n : Nat) (o : Int) (i k : Nat) :
    (centerAxis .maintainSize n o).src i = some k ↔ ((i : Int) = k + ((n / 2 : Nat) - o) ∧ k < n) :=
  translate_src n n _ i k

/-! ### `valid_region`: the largest block of original pixels symmetric about the origin -/

theorem valid_region_spec (n : Nat) (o : Int) (h0 : 0 ≤ o) (h1 : o < n) :
    let d := min o ((n : Int) - 1 - o)
    let m := centerAxis .validRegion n o
    (m.size : Int) = 2 * d + 1 ∧
    (∀ i, i < m.size → ∃ k, m.src i = some k ∧ k < n ∧ (k : Int) = o - d + i) ∧
    -- maximal: a block of half-width d + 1 about the origin would leave the frame
    (o - (d + 1) < 0 ∨ (n : Int) ≤ o + (d + 1)) := by
  simp only [centerAxis]
  exact ⟨by omega, fun i hi => ⟨_, rfl, by omega⟩, by omega⟩

/-! ### `maintain_data`: every original pixel is kept, zero padding symmetric about the origin -/

theorem maintain_data_spec (n : Nat) (o : Int) (h0 : 0 ≤ o) (h1 : o < n) :
    let d := max o ((n : Int) - 1 - o)
    let m := centerAxis .maintainData n o
    (m.size : Int) = 2 * d + 1 ∧
    -- every original pixel k appears (at k + d - o) …
    (∀ k : Nat, k < n → ∃ i, i < m.size ∧ (i : Int) = k + (d - o) ∧ m.src i = some k) ∧
    -- … and nothing else does
    (∀ i k, m.src i = some k → (i : Int) = k + (d - o) ∧ k < n) ∧
    -- minimal: d is the distance to the farthest edge
    (d = o ∨ d = (n : Int) - 1 - o) := by
  refine ⟨by simp only [centerAxis]; omega, fun k hk => ?_, fun i k => (translate_src _ n _ i k).1, by omega⟩
  refine ⟨(k + (max o ((n : Int) - 1 - o) - o)).toNat, by simp only [centerAxis]; omega, by omega, ?_⟩
  exact (translate_src _ n _ _ k).2 ⟨by omega, hk⟩

/-! ### the origin pixel lands at index `size / 2`, in every crop mode -/

theorem origin_lands_at_centre (crop : Crop) (n : Nat) (o : Int) (h0 : 0 ≤ o) (h1 : o < n) :
    let m := centerAxis crop n o
    m.src (m.size / 2) = some o.toNat :=
  -- `valid_region`: the block starts at `o - d` and has `2 d + 1` cells, so its centre is cell `d`
  match crop with
  | .maintainSize => translate_centre n n h0 h1 (by omega)
  | .validRegion => by simp only [centerAxis]; congr 2; omega
  | .maintainData => translate_centre _ n h0 h1 (by omega)

/-! ### axes not selected / `None` components are untouched; negative origins count from the end -/

theorem unselected_untouched {α : Type} [Zero α] (crop : Crop) (a : Img α) :
    setCenter crop a none none ≈ᵢ a :=
  ⟨rfl, rfl, fun _ _ _ _ => rfl⟩

theorem unselected_rows_untouched {α : Type} [Zero α] (crop : Crop) (a : Img α) (o1 : Int) (i j : Nat) :
    (setCenter crop a none (some o1)).rows = a.rows ∧
    (setCenter crop a none (some o1)).px i j =
      match (centerAxis crop a.cols (wrapOrigin a.cols o1)).src j with
      | some c => a.px i c | none => 0 := by
  refine ⟨rfl, ?_⟩
  simp only [setCenter, applyMaps, AxisMap.id]
  cases (centerAxis crop a.cols (wrapOrigin a.cols o1)).src j <;> rfl

theorem negative_origin_wraps (n : Nat) (o : Int) (h : o < 0) (h' : -(n : Int) ≤ o) :
    wrapOrigin n o = n + o ∧ 0 ≤ wrapOrigin n o ∧ wrapOrigin n o < n := by
  simp only [wrapOrigin, h, if_true]; omega

theorem nonneg_origin_kept (n : Nat) (o : Int) (h : 0 ≤ o) : wrapOrigin n o = o :=
  if_neg (not_lt.2 h)

/-! ### images: the requested pixel lands at `(rows//2, cols//2)` of the output -/

theorem image_origin_at_centre {α : Type} [Zero α] (crop : Crop) (a : Img α) (o0 o1 : Int)
    (h0 : 0 ≤ o0) (h0' : o0 < a.rows) (h1 : 0 ≤ o1) (h1' : o1 < a.cols) :
    let out := setCenter crop a (some o0) (some o1)
    out.px (out.rows / 2) (out.cols / 2) = a.px o0.toNat o1.toNat := by
  have hr := origin_lands_at_centre crop a.rows o0 h0 h0'
  have hc := origin_lands_at_centre crop a.cols o1 h1 h1'
  simp only [setCenter, applyMaps, nonneg_origin_kept _ _ h0, nonneg_origin_kept _ _ h1] at hr hc ⊢
  rw [hr, hc]

/-! ### `center_image` trimming: odd width when `odd_size`, square when `square`, inside the frame -/

/-- `n`, or `n - 1` if an odd size is asked for and `n` is even (`if odd_size and n % 2 == 0: n -= 1`) -/
def oddTrim (oddSize : Bool) (n : Nat) : Nat := if oddSize && n % 2 == 0 then n - 1 else n

theorem oddTrim_le (oddSize : Bool) (n : Nat) : oddTrim oddSize n ≤ n := by
  unfold oddTrim; split_ifs <;> omega

theorem oddTrim_pos (oddSize : Bool) {n : Nat} (h : 1 ≤ n) : 1 ≤ oddTrim oddSize n := by
  unfold oddTrim
  split_ifs with hc
  · rw [Bool.and_eq_true, beq_iff_eq] at hc; omega
  · exact h

theorem oddTrim_odd {n : Nat} (h : 1 ≤ n) : oddTrim true n % 2 = 1 := by
  unfold oddTrim
  split_ifs with hc
  all_goals rw [Bool.true_and, beq_iff_eq] at hc; omega

/-- the three cases of `centerImageTrim`: rows trimmed to the columns, columns to the rows, nothing squared -/
theorem centerImageTrim_eq (rows cols : Nat) (oddSize square : Bool) :
    centerImageTrim rows cols oddSize square =
      let c := oddTrim oddSize cols
      let r := oddTrim oddSize rows
      if square && rows != c then
        if rows > c then ((rows - c) / 2, rows - 2 * ((rows - c) / 2) - (rows - c) % 2, 0, c) else (0, r, (c - r) / 2, r)
      else (0, rows, 0, c) := rfl

theorem center_image_odd (rows cols : Nat) (square : Bool) (hr : 1 ≤ rows) (hc : 1 ≤ cols) :
    (centerImageTrim rows cols true square).2.2.2 % 2 = 1 := by
  simp only [centerImageTrim_eq]
  split_ifs
  · exact oddTrim_odd hc
  · exact oddTrim_odd hr
  · exact oddTrim_odd hc

theorem center_image_square (rows cols : Nat) (oddSize : Bool) :
    let t := centerImageTrim rows cols oddSize true
    t.2.1 = t.2.2.2 := by
  simp only [centerImageTrim_eq]
  split_ifs with h1 h2
  · dsimp only; rw [Nat.sub_sub, Nat.div_add_mod, Nat.sub_sub_self (Nat.le_of_lt h2)]
  · rfl
  · rw [Bool.true_and, bne_iff_ne, not_not] at h1; exact h1

theorem center_image_inside (rows cols : Nat) (oddSize square : Bool) :
    let t := centerImageTrim rows cols oddSize square
    t.1 + t.2.1 ≤ rows ∧ t.2.2.1 + t.2.2.2 ≤ cols := by
  simp only [centerImageTrim_eq]
  have hc := oddTrim_le oddSize cols
  have hr := oddTrim_le oddSize rows
  split_ifs with h1 h2
  all_goals dsimp only; omega

/-! ### non-vacuity -/

example : (centerAxis .validRegion 7 2).size = 5 ∧ (centerAxis .maintainData 7 2).size = 9
    ∧ (centerAxis .maintainSize 7 2).src 0 = none ∧ (centerAxis .maintainSize 7 2).src 1 = some 0 := by decide

example : centerImageTrim 5 8 false true = (0, 5, 1, 5) ∧ centerImageTrim 5 6 false true = (0, 5, 0, 5) := by decide

end PyAbel.C12
