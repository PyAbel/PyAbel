/-
C09 — Daun degree 3 (`_bs_daun(n, 3)`): the projected cubic-spline basis.

  * the coded antiderivative `P(R, a, b, c, d)` is the line-of-sight integral of the cubic piece `a + b r + c r² + d r³` on `[0, R)`
    (from `C10.polynomial_abel`), so `p(j)[i]` / `q(j)[i]` are, for all `i`, `j`, the Abel integrals of the cubic Hermite value /
    derivative functions of node `j`;
  * the Thomas algorithm of the model solves the (1, 4, 1) system of the clamped spline's node derivatives, the system is
    symmetric, and therefore the final matrix applied to any samples is the Abel integral of the clamped cubic spline through them.
-/
import PyAbel.Props.C09
import PyAbel.Props.C11Profiles
import PyAbel.Model.Daun3
import Mathlib.Tactic.FieldSimp

open MeasureTheory Set

namespace PyAbel.C09
open PyAbel PyAbel.Poly PyAbel.C11

theorem polyAbelAt_cubic (a b c d R x : ℝ) (hx : 0 ≤ x) (hxR : x < R) :
    polyAbelAt 4 (cvec [a, b, c, d]) 0 R x
      = Real.sqrt (R ^ 2 - x ^ 2) * (a * 2 + (b + (c * 2 / 3 + d * R / 2) * R) * R + (d * 3 / 4 * R + c * 4 / 3) * x ^ 2)
        + (b + d * 3 / 4 * x ^ 2) * x ^ 2 * (Real.log (Real.sqrt (R ^ 2 - x ^ 2) + R) - if 0 < x then Real.log x else 0) := by
  rw [polyAbelAt_cubicPiece a b c d (hx.trans_lt hxR) hx, cubicAbel, hc_eq_sqrt, add_comm R,
    show (if 0 < x then Real.log x else 0) = Real.log x from
      ite_eq_left_iff.mpr fun h => by rw [le_antisymm (not_lt.mp h) hx, Real.log_zero]]
  ring

/-- the coded antiderivative is the closed form without its lower-limit term `(b + ¾ d x²) x² ln x`, which `daun3p` and `daun3q`
    subtract separately -/
theorem daun3P_eq_cubicAbel (R i : ℕ) (a b c d : ℤ) :
    (daun3P R a b c d i : ℝ) - ((b : ℝ) + (d : ℝ) * 3 / 4 * (i : ℝ) ^ 2) * x2logx i = cubicAbel a b c d R i := by
  simp only [daun3P, cubicAbel, x2logx_real, sqrt_real, log_real, hc_eq_sqrt]
  push_cast
  rw [add_comm (R : ℝ)]
  ring

/-- the coded antiderivative `P(R, a, b, c, d)[i]`, less the lower-limit term, is the projection of the cubic piece
    `a + b r + c r² + d r³` on `[0, R)` -/
theorem daun3P_eq_abel (R i : ℕ) (a b c d : ℤ) (h : i < R) :
    (daun3P R a b c d i : ℝ) - ((b : ℝ) + (d : ℝ) * 3 / 4 * (i : ℝ) ^ 2) * x2logx i
      = Abel (piece 4 (cvec [(a : ℝ), b, c, d]) 0 R) i :=
  have hiR : (i : ℝ) < R := Nat.cast_lt.mpr h
  (daun3P_eq_cubicAbel R i a b c d).trans
    (abel_piece_cubic _ _ _ _ ((Nat.cast_nonneg i).trans_lt hiR) (Nat.cast_nonneg i) hiR.le).symm

/-- cubic Hermite value function of node `j`: 1 at `j`, 0 at `j ± 1`, zero slope at all three, zero outside `[j−1, j+1)` -/
noncomputable def hermiteV (j : ℕ) (r : ℝ) : ℝ :=
  if (j : ℝ) ≤ r ∧ r < j + 1 then 2 * (r - j) ^ 3 - 3 * (r - j) ^ 2 + 1
  else if (j : ℝ) - 1 ≤ r ∧ r < j then -2 * (r - j) ^ 3 - 3 * (r - j) ^ 2 + 1 else 0

/-- cubic Hermite derivative function of node `j`: 0 at all three nodes, unit slope at `j`, zero slope at `j ± 1` -/
noncomputable def hermiteD (j : ℕ) (r : ℝ) : ℝ :=
  if (j : ℝ) ≤ r ∧ r < j + 1 then (r - j) ^ 3 - 2 * (r - j) ^ 2 + (r - j)
  else if (j : ℝ) - 1 ≤ r ∧ r < j then (r - j) ^ 3 + 2 * (r - j) ^ 2 + (r - j) else 0

theorem two_piece_core (a b c r vl vr : ℝ) (h0 : 0 ≤ r) (hab : a ≤ b) (hbc : b ≤ c) :
    (if b ≤ r ∧ r < c then vr else if a ≤ r ∧ r < b then vl else 0)
      = (if 0 ≤ r ∧ r < c then vr else 0) + (if 0 ≤ r ∧ r < b then vl - vr else 0) - (if 0 ≤ r ∧ r < a then vl else 0) := by
  simp only [h0, true_and]
  rcases lt_or_ge r a with ha | ha
  · have hb := ha.trans_le hab
    rw [if_neg fun h => hb.not_ge h.1, if_neg fun h => ha.not_ge h.1, if_pos (hb.trans_le hbc), if_pos hb, if_pos ha]
    ring
  rcases lt_or_ge r b with hb | hb
  · rw [if_neg fun h => hb.not_ge h.1, if_pos ⟨ha, hb⟩, if_pos (hb.trans_le hbc), if_pos hb, if_neg ha.not_gt]
    ring
  rcases lt_or_ge r c with hc | hc
  · rw [if_pos ⟨hb, hc⟩, if_pos hc, if_neg hb.not_gt, if_neg ha.not_gt]
    ring
  · rw [if_neg fun h => hc.not_gt h.2, if_neg fun h => hb.not_gt h.2, if_neg hc.not_gt, if_neg hb.not_gt, if_neg ha.not_gt]
    ring

/-- the three cubic pieces (all starting at 0) whose signed sum is a two-piece cubic on `[k, k+1)`, `[k+1, k+2)`:
    `right` on `[0, k+2)`, `left − right` on `[0, k+1)`, `−left` on `[0, k)` -/
theorem two_piece_decomp (k : ℕ) (cl cr : List ℝ) (cm : ℕ → ℝ) (hm : ∀ n, n < 4 → cm n = cvec cl n - cvec cr n)
    (r : ℝ) (hr : 0 ≤ r) :
    (if ((k : ℝ) + 1) ≤ r ∧ r < (k : ℝ) + 2 then evalN 4 (cvec cr) r
      else if (k : ℝ) ≤ r ∧ r < (k : ℝ) + 1 then evalN 4 (cvec cl) r else 0)
    = piece 4 (cvec cr) 0 ((k + 2 : ℕ) : ℝ) r + piece 4 cm 0 ((k + 1 : ℕ) : ℝ) r
        - piece 4 (cvec cl) 0 ((k : ℕ) : ℝ) r := by
  have evsub : evalN 4 cm r = evalN 4 (cvec cl) r - evalN 4 (cvec cr) r := by
    simp only [evalN, ← sumRange_sub, ← sub_mul]
    exact sumRange_congr 4 _ _ fun n hn => by rw [hm n hn]
  rw [two_piece_core k (k + 1) (k + 2) r _ _ hr (le_add_of_nonneg_right zero_le_one) (add_le_add_right one_le_two _), ← evsub]
  simp only [piece, Nat.cast_add, Nat.cast_one, Nat.cast_ofNat]

/-- `two_piece_core` in the form `hermiteV (k + 1)` and `hermiteD (k + 1)` unfold to -/
theorem node_decomp (k N : ℕ) (r : ℝ) (hr : 0 ≤ r) (vl vr : ℝ) (cl cm cr : ℕ → ℝ)
    (hR : evalN N cr r = vr) (hM : evalN N cm r = vl - vr) (hL : evalN N cl r = vl) :
    (if ((k + 1 : ℕ) : ℝ) ≤ r ∧ r < ((k + 1 : ℕ) : ℝ) + 1 then vr
      else if ((k + 1 : ℕ) : ℝ) - 1 ≤ r ∧ r < ((k + 1 : ℕ) : ℝ) then vl else 0)
    = piece N cr 0 ((k + 2 : ℕ) : ℝ) r + piece N cm 0 ((k + 1 : ℕ) : ℝ) r - piece N cl 0 ((k : ℕ) : ℝ) r := by
  simp only [piece, hR, hM, hL, Nat.cast_add, Nat.cast_one, Nat.cast_ofNat, add_sub_cancel_right, add_assoc, one_add_one_eq_two]
  exact two_piece_core k (k + 1) (k + 2) r vl vr hr (le_add_of_nonneg_right zero_le_one) (add_le_add_right one_le_two _)

/-- … and of node 0, which has no left half -/
theorem node_zero_decomp (N : ℕ) (r : ℝ) (hr : 0 ≤ r) (vl vr : ℝ) (c : ℕ → ℝ) (hR : evalN N c r = vr) :
    (if ((0 : ℕ) : ℝ) ≤ r ∧ r < ((0 : ℕ) : ℝ) + 1 then vr else if ((0 : ℕ) : ℝ) - 1 ≤ r ∧ r < ((0 : ℕ) : ℝ) then vl else 0)
      = piece N c 0 ((1 : ℕ) : ℝ) r := by
  simp only [piece, hR, Nat.cast_zero, Nat.cast_one, zero_add]
  rw [if_neg (fun h : 0 - 1 ≤ r ∧ r < 0 => absurd h.2 (not_lt.mpr hr))]

theorem hermiteV_succ_decomp (k : ℕ) (r : ℝ) (hr : 0 ≤ r) :
    hermiteV (k + 1) r
      = piece 4 (cvec [((-(((k + 1 : ℕ) : ℤ) ^ 2) * (2 * ((k + 1 : ℕ) : ℤ) + 3) + 1 : ℤ) : ℝ), ((6 * ((k + 1 : ℕ) : ℤ) * (((k + 1 : ℕ) : ℤ) + 1) : ℤ) : ℝ),
            ((-3 * (2 * ((k + 1 : ℕ) : ℤ) + 1) : ℤ) : ℝ), ((2 : ℤ) : ℝ)]) 0 ((k + 2 : ℕ) : ℝ) r
        + piece 4 (cvec [((4 * ((k + 1 : ℕ) : ℤ) ^ 3 : ℤ) : ℝ), ((-12 * ((k + 1 : ℕ) : ℤ) ^ 2 : ℤ) : ℝ), ((12 * ((k + 1 : ℕ) : ℤ) : ℤ) : ℝ), ((-4 : ℤ) : ℝ)])
            0 ((k + 1 : ℕ) : ℝ) r
        - piece 4 (cvec [((((k + 1 : ℕ) : ℤ) ^ 2 * (2 * ((k + 1 : ℕ) : ℤ) - 3) + 1 : ℤ) : ℝ), ((-6 * ((k + 1 : ℕ) : ℤ) * (((k + 1 : ℕ) : ℤ) - 1) : ℤ) : ℝ),
            ((3 * (2 * ((k + 1 : ℕ) : ℤ) - 1) : ℤ) : ℝ), ((-2 : ℤ) : ℝ)]) 0 ((k : ℕ) : ℝ) r := by
  refine node_decomp k 4 r hr _ _ _ _ _ ?_ ?_ ?_
  · rw [evalN_cubic]; push_cast; ring
  · rw [evalN_cubic]; push_cast; ring
  · rw [evalN_cubic]; push_cast; ring

theorem hermiteD_succ_decomp (k : ℕ) (r : ℝ) (hr : 0 ≤ r) :
    hermiteD (k + 1) r
      = piece 4 (cvec [((-((k + 1 : ℕ) : ℤ) * (((k + 1 : ℕ) : ℤ) * (((k + 1 : ℕ) : ℤ) + 2) + 1) : ℤ) : ℝ), ((((k + 1 : ℕ) : ℤ) * (3 * ((k + 1 : ℕ) : ℤ) + 4) + 1 : ℤ) : ℝ), ((-3 * ((k + 1 : ℕ) : ℤ) - 2 : ℤ) : ℝ), ((1 : ℤ) : ℝ)]) 0 ((k + 2 : ℕ) : ℝ) r
        + piece 4 (cvec [((4 * ((k + 1 : ℕ) : ℤ) ^ 2 : ℤ) : ℝ), ((-8 * ((k + 1 : ℕ) : ℤ) : ℤ) : ℝ), ((4 : ℤ) : ℝ), ((0 : ℤ) : ℝ)]) 0 ((k + 1 : ℕ) : ℝ) r
        - piece 4 (cvec [((-((k + 1 : ℕ) : ℤ) * (((k + 1 : ℕ) : ℤ) * (((k + 1 : ℕ) : ℤ) - 2) + 1) : ℤ) : ℝ), ((((k + 1 : ℕ) : ℤ) * (3 * ((k + 1 : ℕ) : ℤ) - 4) + 1 : ℤ) : ℝ), ((-3 * ((k + 1 : ℕ) : ℤ) + 2 : ℤ) : ℝ), ((1 : ℤ) : ℝ)]) 0 ((k : ℕ) : ℝ) r := by
  refine node_decomp k 4 r hr _ _ _ _ _ ?_ ?_ ?_
  · rw [evalN_cubic]; push_cast; ring
  · rw [evalN_cubic]; push_cast; ring
  · rw [evalN_cubic]; push_cast; ring

theorem hermiteV_zero_decomp (r : ℝ) (hr : 0 ≤ r) :
    hermiteV 0 r = piece 4 (cvec [((1 : ℤ) : ℝ), ((0 : ℤ) : ℝ), ((-3 : ℤ) : ℝ), ((2 : ℤ) : ℝ)]) 0 ((1 : ℕ) : ℝ) r := by
  refine node_zero_decomp 4 r hr _ _ _ ?_
  rw [evalN_cubic]; push_cast; ring

theorem hermiteD_zero_decomp (r : ℝ) (hr : 0 ≤ r) :
    hermiteD 0 r = piece 4 (cvec [((0 : ℤ) : ℝ), ((1 : ℤ) : ℝ), ((-2 : ℤ) : ℝ), ((1 : ℤ) : ℝ)]) 0 ((1 : ℕ) : ℝ) r := by
  refine node_zero_decomp 4 r hr _ _ _ ?_
  rw [evalN_cubic]; push_cast; ring

theorem abel_cubic_piece (R i : ℕ) (a b c d : ℤ) :
    Abel (piece 4 (cvec [(a : ℝ), b, c, d]) 0 R) i
      = if i < R then (daun3P R a b c d i : ℝ) - ((b : ℝ) + (d : ℝ) * 3 / 4 * (i : ℝ) ^ 2) * x2logx i else 0 := by
  by_cases h : i < R
  · rw [if_pos h, daun3P_eq_abel R i a b c d h]
  · rw [if_neg h]
    exact abel_piece_of_ge 4 _ 0 R i le_rfl (Nat.cast_nonneg R) (by exact_mod_cast not_lt.mp h)

theorem abel_cubic_piece_one (a b c d : ℤ) (i : ℕ) :
    Abel (piece 4 (cvec [(a : ℝ), b, c, d]) 0 ((1 : ℕ) : ℝ)) i = if i = 0 then (daun3P 1 a b c d 0 : ℝ) else 0 := by
  rw [abel_cubic_piece]
  by_cases h : i = 0
  · subst h; rw [if_pos Nat.one_pos, if_pos rfl]; simp [x2logx]
  · rw [if_neg (mt Nat.lt_one_iff.mp h), if_neg h]

theorem three_pieces_linear {f : ℝ → ℝ} {N R₁ R₂ R₃ : ℕ} {c₁ c₂ c₃ : ℕ → ℝ}
    (hf : ∀ r, 0 ≤ r → f r = piece N c₁ 0 (R₁ : ℝ) r + piece N c₂ 0 (R₂ : ℝ) r - piece N c₃ 0 (R₃ : ℝ) r) (x : ℝ) :
    LosInt f x ∧ Abel f x = Abel (piece N c₁ 0 R₁) x + Abel (piece N c₂ 0 R₂) x - Abel (piece N c₃ 0 R₃) x := by
  have i₁ := losInt_piece N c₁ 0 R₁ x le_rfl (Nat.cast_nonneg _)
  have i₂ := losInt_piece N c₂ 0 R₂ x le_rfl (Nat.cast_nonneg _)
  have i₃ := losInt_piece N c₃ 0 R₃ x le_rfl (Nat.cast_nonneg _)
  exact ⟨((i₁.add i₂).sub i₃).congr_nonneg hf, by rw [abel_congr_nonneg x hf, abel_sub (i₁.add i₂) i₃, abel_add i₁ i₂]⟩

/-- an entry `A[j, i]`, `j = k + 1`, in the shape `daun3p` and `daun3q` unfold to: `P(R, …)` of the three pieces and the two
    lower-limit terms, `C` for the pixel at the node and `E` for the pixel below it, the latter attached by `G` (`+` in `p`, `−` in
    `q`).  It is the projection of a node function that is the signed sum of the pieces.  `hb`, `hd`: the `r` and `r³` coefficients
    cancel where all three pieces are present, so that no `x² ln x` is left there. -/
theorem daun_node_eq_abel (G : ℝ → ℝ → ℝ) {k i : ℕ} {aR bR cR dR aM bM cM dM aL bL cL dL : ℤ} {C E : ℝ} {f : ℝ → ℝ}
    (hf : ∀ r, 0 ≤ r → f r = piece 4 (cvec [(aR : ℝ), bR, cR, dR]) 0 ((k + 2 : ℕ) : ℝ) r
      + piece 4 (cvec [(aM : ℝ), bM, cM, dM]) 0 ((k + 1 : ℕ) : ℝ) r - piece 4 (cvec [(aL : ℝ), bL, cL, dL]) 0 ((k : ℕ) : ℝ) r)
    (hb : bM = bL - bR) (hd : dM = dL - dR) (hG : ∀ x, G x 0 = x)
    (hC : C = ((bR : ℝ) + (dR : ℝ) * 3 / 4 * (i : ℝ) ^ 2) * x2logx (k + 1))
    (hE : ∀ x, G x E = x - ((bL : ℝ) + (dL : ℝ) * 3 / 4 * (i : ℝ) ^ 2) * x2logx k) :
    G ((if i ≤ k + 1 then (daun3P (k + 1 + 1) aR bR cR dR i : ℝ) else 0) + (if i < k + 1 then (daun3P (k + 1) aM bM cM dM i : ℝ) else 0)
        - (if i = k + 1 then C else 0) - (if 0 < k + 1 ∧ i + 1 < k + 1 then (daun3P (k + 1 - 1) aL bL cL dL i : ℝ) else 0))
      (if 0 < k + 1 ∧ i + 1 = k + 1 then E else 0) = Abel f i := by
  rw [(three_pieces_linear hf i).2, abel_cubic_piece, abel_cubic_piece, abel_cubic_piece, hb, hd]
  -- the guards `i < k + 2`, `i < k` of the three projections in the form the coded guards have
  simp only [Nat.lt_succ_iff (n := k + 1), ← Nat.add_lt_add_iff_right (m := k) (k := 1), Nat.add_sub_cancel]
  obtain h | ⟨h1, h⟩ | ⟨rfl, h⟩ | h := node_cases i (k + 1)
  · simp only [h, true_and, if_true, if_false, hG]
    push_cast; ring
  · obtain rfl := Nat.add_right_cancel h1
    simp only [h, true_and, if_true, if_false, hE]
    push_cast; ring
  · simp only [h, and_false, if_true, if_false, hG, hC]
    ring
  · simp only [h, and_false, if_false, hG]
    ring

theorem daun3p_succ_eq_abel (k i : ℕ) : (daun3p (k + 1) i : ℝ) = Abel (hermiteV (k + 1)) i := by
  refine daun_node_eq_abel (· + ·) (hermiteV_succ_decomp k) (by ring) (by ring) add_zero ?_ fun x => ?_
  · push_cast; ring
  · simp only [Nat.add_sub_cancel]; push_cast; ring

theorem daun3q_succ_eq_abel (k i : ℕ) : (daun3q (k + 1) i : ℝ) = Abel (hermiteD (k + 1)) i := by
  refine daun_node_eq_abel (· - ·) (hermiteD_succ_decomp k) (by ring) (by ring) sub_zero ?_ fun x => ?_
  · push_cast; ring
  · simp only [Nat.add_sub_cancel]; push_cast; ring

theorem daun3p_zero (i : ℕ) : (daun3p 0 i : ℝ) = if i = 0 then (daun3P 1 1 0 (-3) 2 0 : ℝ) else 0 := by
  cases i with
  | zero => simp [daun3p, x2logx]
  | succ i => simp [daun3p]

theorem daun3q_zero (i : ℕ) : (daun3q 0 i : ℝ) = if i = 0 then (daun3P 1 0 1 (-2) 1 0 : ℝ) else 0 := by
  cases i with
  | zero => simp [daun3q, x2logx]
  | succ i => simp [daun3q]

/-- **Daun degree 3, value functions**: `p(j)[i]` is the Abel integral of the cubic Hermite value function of node `j` at
    pixel `i`, for all `i`, `j` -/
theorem daun3p_eq_abel (j i : ℕ) : (daun3p j i : ℝ) = Abel (hermiteV j) i := by
  cases j with
  | succ k => exact daun3p_succ_eq_abel k i
  | zero => rw [abel_congr_nonneg (i : ℝ) hermiteV_zero_decomp, abel_cubic_piece_one, daun3p_zero]

/-- **Daun degree 3, derivative functions**: `q(j)[i]` is the Abel integral of the cubic Hermite derivative function of node `j` -/
theorem daun3q_eq_abel (j i : ℕ) : (daun3q j i : ℝ) = Abel (hermiteD j) i := by
  cases j with
  | succ k => exact daun3q_succ_eq_abel k i
  | zero => rw [abel_congr_nonneg (i : ℝ) hermiteD_zero_decomp, abel_cubic_piece_one, daun3q_zero]

/-- symmetry of the tridiagonal (1, 4, 1) form, with the boundary terms it leaves -/
theorem tri_symm_boundary (X Y : ℕ → ℝ) (M : ℕ) :
    sumRange M (fun k => (X k + 4 * X (k + 1) + X (k + 2)) * Y (k + 1))
      = sumRange M (fun k => X (k + 1) * (Y k + 4 * Y (k + 1) + Y (k + 2)))
        + (X 0 * Y 1 - X 1 * Y 0) - (X M * Y (M + 1) - X (M + 1) * Y M) := by
  induction M with
  | zero => simp [sumRange]
  | succ M ih => rw [sumRange_succ, sumRange_succ, ih]; ring

theorem tri_symm (X Y : ℕ → ℝ) (M : ℕ) (hX0 : X 0 = 0) (hY0 : Y 0 = 0) (hXM : X (M + 1) = 0) (hYM : Y (M + 1) = 0) :
    sumRange M (fun k => (X k + 4 * X (k + 1) + X (k + 2)) * Y (k + 1))
      = sumRange M (fun k => X (k + 1) * (Y k + 4 * Y (k + 1) + Y (k + 2))) := by
  rw [tri_symm_boundary, hX0, hY0, hXM, hYM]; ring

theorem sumRange_sub (N : ℕ) (a b : ℕ → ℝ) : sumRange N (fun j => a j - b j) = sumRange N a - sumRange N b :=
  PyAbel.sumRange_sub N a b

/-- the correction rows `A[2:] += C`, `A[:-2] −= C` contracted with the data: a sum over the interior nodes -/
theorem correction_reindex (f X : ℕ → ℝ) (M : ℕ) :
    sumRange (M + 2) (fun j => f j * ((if 2 ≤ j then X (j - 1) else 0) - (if j + 2 < M + 2 then X (j + 1) else 0)))
      = sumRange M (fun k => X (k + 1) * (f (k + 2) - f k)) := by
  have h1 : sumRange (M + 2) (fun j => f j * (if 2 ≤ j then X (j - 1) else 0)) = sumRange M (fun k => f (k + 2) * X (k + 1)) := by
    rw [sumRange_succ', sumRange_succ']
    simp
  have h2 : sumRange (M + 2) (fun j => f j * (if j + 2 < M + 2 then X (j + 1) else 0)) = sumRange M (fun k => f k * X (k + 1)) := by
    rw [sumRange_succ, sumRange_succ, if_neg (lt_irrefl _), if_neg (Nat.le_succ _).not_gt, mul_zero, mul_zero, add_zero, add_zero]
    exact sumRange_congr M _ _ fun k hk => by rw [if_pos (Nat.add_lt_add_right hk 2)]
  simp only [mul_sub]
  rw [sumRange_sub, h1, h2, ← sumRange_sub]
  apply sumRange_congr; intro k _; ring

/-! the Thomas algorithm of the model solves the (1, 4, 1) system -/

theorem thomasC_succ (k : ℕ) : (thomasC (k + 1) : ℝ) = 1 / (4 - thomasC k) := by rw [thomasC, Nat.cast_one, Nat.cast_ofNat]

theorem thomasD_succ (rhs : ℕ → ℝ) (k : ℕ) : thomasD rhs (k + 1) = (rhs (k + 1) - thomasD rhs k) / (4 - thomasC k) := by
  rw [thomasD, Nat.cast_ofNat]

theorem thomasC_bounds (k : ℕ) : 0 < (thomasC k : ℝ) ∧ (thomasC k : ℝ) ≤ 1 / 3 := by
  induction k with
  | zero => rw [thomasC, Nat.cast_one, Nat.cast_ofNat]; norm_num
  | succ k ih =>
    have h3 : (3 : ℝ) ≤ 4 - thomasC k := le_sub_comm.mpr (ih.2.trans (by norm_num))
    rw [thomasC_succ]
    exact ⟨one_div_pos.mpr (three_pos.trans_le h3), one_div_le_one_div_of_le three_pos h3⟩

theorem thomas_pivot_ne (k : ℕ) : (4 : ℝ) - thomasC k ≠ 0 :=
  (sub_pos.mpr ((thomasC_bounds k).2.trans_lt (by norm_num))).ne'

/-- the back-substituted vector: component `k` of the solution of the `m`-unknown system -/
noncomputable def thomasSol (m : ℕ) (rhs : ℕ → ℝ) (k : ℕ) : ℝ := thomasX m rhs (m - 1 - k) k

theorem thomasSol_last (m : ℕ) (rhs : ℕ → ℝ) : thomasSol (m + 1) rhs m = thomasD rhs m := by
  rw [thomasSol, Nat.add_sub_cancel, Nat.sub_self, thomasX]

theorem thomasSol_step (m : ℕ) (rhs : ℕ → ℝ) (k : ℕ) (hk : k + 1 < m) :
    thomasSol m rhs k = thomasD rhs k - thomasC k * thomasSol m rhs (k + 1) := by
  obtain ⟨t, ht⟩ := Nat.exists_eq_add_one_of_ne_zero (Nat.sub_ne_zero_of_lt (Nat.lt_sub_of_add_lt hk))
  rw [thomasSol, thomasSol, ← Nat.sub_sub, ht, Nat.add_sub_cancel, thomasX]

theorem thomasSol_eq (m : ℕ) (rhs : ℕ → ℝ) (k : ℕ) (hk : k < m) :
    thomasSol m rhs k = thomasD rhs k - thomasC k * (if k + 1 < m then thomasSol m rhs (k + 1) else 0) := by
  by_cases h : k + 1 < m
  · rw [if_pos h, thomasSol_step m rhs k h]
  · obtain rfl : m = k + 1 := le_antisymm (not_lt.mp h) hk
    rw [if_neg h, thomasSol_last, mul_zero, sub_zero]

/-- first row: `4 x₀ + x₁ = rhs₀` (just `4 x₀ = rhs₀` when there is one unknown) -/
theorem thomas_row_zero (m : ℕ) (rhs : ℕ → ℝ) (hm : 0 < m) :
    4 * thomasSol m rhs 0 + (if 1 < m then thomasSol m rhs 1 else 0) = rhs 0 := by
  rw [thomasSol_eq m rhs 0 hm]
  simp only [thomasD, thomasC]; push_cast; ring

/-- one step of the elimination, as algebra: with the pivot `b − c`, the modified coefficient `1 / (b − c)` and right-hand side
    `(ρ − D) / (b − c)`, the back substitution `x₁ = D' − c' x₂`, `x₀ = D − c x₁` solves the row `x₀ + b x₁ + x₂ = ρ` -/
theorem thomas_step (b c D ρ x₂ : ℝ) (hp : b - c ≠ 0) :
    (D - c * ((ρ - D) / (b - c) - 1 / (b - c) * x₂)) + b * ((ρ - D) / (b - c) - 1 / (b - c) * x₂) + x₂ = ρ := by
  field_simp
  ring

/-- the other rows: `x_k + 4 x_{k+1} + x_{k+2} = rhs_{k+1}` (no `x_{k+2}` in the last one) -/
theorem thomas_row_succ (m : ℕ) (rhs : ℕ → ℝ) (k : ℕ) (hk : k + 1 < m) :
    thomasSol m rhs k + 4 * thomasSol m rhs (k + 1) + (if k + 2 < m then thomasSol m rhs (k + 2) else 0) = rhs (k + 1) := by
  rw [thomasSol_step m rhs k hk, thomasSol_eq m rhs (k + 1) hk, thomasC_succ, thomasD_succ]
  exact thomas_step 4 _ _ _ _ (thomas_pivot_ne k)

theorem losInt_congr_nonneg {f g : ℝ → ℝ} (x : ℝ) (h : ∀ r, 0 ≤ r → f r = g r) (hg : LosInt g x) : LosInt f x :=
  hg.congr_nonneg h

theorem losInt_hermiteV (j : ℕ) (x : ℝ) : LosInt (hermiteV j) x := by
  cases j with
  | zero => exact (losInt_piece 4 _ 0 _ x le_rfl (Nat.cast_nonneg _)).congr_nonneg hermiteV_zero_decomp
  | succ k => exact (three_pieces_linear (hermiteV_succ_decomp k) x).1

theorem losInt_hermiteD (j : ℕ) (x : ℝ) : LosInt (hermiteD j) x := by
  cases j with
  | zero => exact (losInt_piece 4 _ 0 _ x le_rfl (Nat.cast_nonneg _)).congr_nonneg hermiteD_zero_decomp
  | succ k => exact (three_pieces_linear (hermiteD_succ_decomp k) x).1

/-- the cubic spline with values `f` and slopes `d` at the nodes `0 … n−1` (cubic Hermite form) -/
noncomputable def hermiteSpline (n : ℕ) (f d : ℕ → ℝ) (r : ℝ) : ℝ :=
  sumRange n (fun j => f j * hermiteV j r) + sumRange n (fun j => d j * hermiteD j r)

theorem abel_hermiteSpline (n i : ℕ) (f d : ℕ → ℝ) :
    Abel (hermiteSpline n f d) i
      = sumRange n (fun j => f j * (daun3p j i : ℝ)) + sumRange n (fun j => d j * (daun3q j i : ℝ)) := by
  have hV := abel_sumRange n f hermiteV i fun j _ => losInt_hermiteV j i
  have hD := abel_sumRange n d hermiteD i fun j _ => losInt_hermiteD j i
  unfold hermiteSpline
  simp only [daun3p_eq_abel, daun3q_eq_abel]
  rw [abel_add hV.2 hD.2, hV.1, hD.1]

/-- **Daun degree 3, assembled**: for any node-slope vector `d` and any per-pixel vector `X` that solve the clamped-spline
    (1, 4, 1) systems (right-hand sides `3(f_{k+1} − f_{k−1})` and `3 q_k(i)`, zero at both ends), the data contracted with
    `p(j)[i] + X[j−1] − X[j+1]` is the Abel integral at pixel `i` of the cubic spline through the data with slopes `d`. -/
theorem daun3_forward_spline (M i : ℕ) (f d X : ℕ → ℝ)
    (hd0 : d 0 = 0) (hdM : d (M + 1) = 0) (hd : ∀ k, k < M → d k + 4 * d (k + 1) + d (k + 2) = 3 * (f (k + 2) - f k))
    (hX0 : X 0 = 0) (hXM : X (M + 1) = 0)
    (hX : ∀ k, k < M → X k + 4 * X (k + 1) + X (k + 2) = 3 * (daun3q (k + 1) i : ℝ)) :
    sumRange (M + 2) (fun j => f j * ((daun3p j i : ℝ)
        + ((if 2 ≤ j then X (j - 1) else 0) - (if j + 2 < M + 2 then X (j + 1) else 0))))
      = Abel (hermiteSpline (M + 2) f d) i := by
  simp only [mul_add]
  rw [abel_hermiteSpline, sumRange_add, correction_reindex]
  congr 1
  calc sumRange M (fun k => X (k + 1) * (f (k + 2) - f k))
      = sumRange M (fun k => 1 / 3 * (X (k + 1) * (d k + 4 * d (k + 1) + d (k + 2)))) :=
        sumRange_congr M _ _ fun k hk => by rw [hd k hk]; ring
    _ = 1 / 3 * sumRange M (fun k => (X k + 4 * X (k + 1) + X (k + 2)) * d (k + 1)) := by
        rw [sumRange_smul, tri_symm X d M hX0 hd0 hXM hdM]
    _ = sumRange M (fun k => d (k + 1) * (daun3q (k + 1) i : ℝ)) := by
        rw [← sumRange_smul]; exact sumRange_congr M _ _ fun k hk => by rw [hX k hk]; ring
    _ = sumRange (M + 2) (fun j => d j * (daun3q j i : ℝ)) := by
        rw [sumRange_succ, sumRange_succ', hd0, hdM]; ring

/-- the Thomas solution padded with the two clamped end nodes -/
noncomputable def padSol (M : ℕ) (rhs : ℕ → ℝ) (k : ℕ) : ℝ := if 1 ≤ k ∧ k ≤ M then thomasSol M rhs (k - 1) else 0

theorem padSol_zero (M : ℕ) (rhs : ℕ → ℝ) : padSol M rhs 0 = 0 := if_neg fun h => Nat.not_succ_le_zero 0 h.1

theorem padSol_succ (M : ℕ) (rhs : ℕ → ℝ) (k : ℕ) : padSol M rhs (k + 1) = if k < M then thomasSol M rhs k else 0 :=
  if_congr (and_iff_right (Nat.le_add_left 1 k)) rfl rfl

theorem padSol_spec (M : ℕ) (rhs : ℕ → ℝ) :
    padSol M rhs 0 = 0 ∧ padSol M rhs (M + 1) = 0
      ∧ ∀ k, k < M → padSol M rhs k + 4 * padSol M rhs (k + 1) + padSol M rhs (k + 2) = rhs k := by
  refine ⟨padSol_zero M rhs, by rw [padSol_succ, if_neg (lt_irrefl M)], fun k hk => ?_⟩
  rw [padSol_succ, padSol_succ M rhs (k + 1), if_pos hk]
  cases k with
  | zero => rw [padSol_zero, zero_add]; exact thomas_row_zero M rhs hk
  | succ k => rw [padSol_succ, if_pos (Nat.lt_of_succ_lt hk)]; exact thomas_row_succ M rhs k hk

/-- node slopes of the clamped cubic spline through `f_0 … f_{M+1}`: zero at both ends, `(1, 4, 1)·d = 3 (f_{k+1} − f_{k−1})` inside -/
noncomputable def clampedSlopes (M : ℕ) (f : ℕ → ℝ) : ℕ → ℝ := padSol M (fun k => 3 * (f (k + 2) - f k))

theorem clampedSlopes_spec (M : ℕ) (f : ℕ → ℝ) :
    clampedSlopes M f 0 = 0 ∧ clampedSlopes M f (M + 1) = 0
      ∧ ∀ k, k < M → clampedSlopes M f k + 4 * clampedSlopes M f (k + 1) + clampedSlopes M f (k + 2) = 3 * (f (k + 2) - f k) :=
  padSol_spec M _

theorem daun3q_of_gt (j i : ℕ) (h : j < i) : (daun3q j i : ℝ) = 0 := by
  rw [daun3q, if_neg h.not_ge, if_neg h.asymm, if_neg h.ne', if_neg fun hh => h.asymm (Nat.lt_of_succ_lt hh.2),
    if_neg fun hh => Nat.not_succ_lt_self (hh.2.trans_lt h)]
  ring

/-- a derivative function is odd about its node, so its integral along the line through the centre vanishes -/
theorem daun3q_succ_zero (k : ℕ) : (daun3q (k + 1) 0 : ℝ) = 0 := by
  rw [daun3q, if_pos (Nat.zero_le _), if_pos k.succ_pos, if_neg k.succ_ne_zero.symm]
  -- at pixel 0 the half-chord is `R` and `x² ln` is switched off: `P(R, a, b, c, d)[0] = R (2a + (b + (⅔ c + ½ d R) R) R)`
  simp only [daun3P, sqrt_real, Nat.cast_pow, Nat.cast_zero, zero_pow two_ne_zero, sub_zero, Real.sqrt_sq (Nat.cast_nonneg _),
    mul_zero, zero_mul, add_zero, Nat.cast_ofNat]
  cases k with
  | zero => rw [if_neg (by omega), if_pos ⟨Nat.one_pos, rfl⟩, x2logx, if_pos rfl]; norm_num
  | succ m => rw [if_pos (by omega), if_neg (by omega), Nat.add_sub_cancel]; push_cast; ring

/-- the per-pixel correction vector of the model (`C[:, i−1]` padded by the clamped ends; zero for the two outer pixel columns) -/
noncomputable def modelX (M i : ℕ) : ℕ → ℝ :=
  if 1 ≤ i ∧ i + 1 < M + 2 then padSol M (fun k => 3 * (daun3q (k + 1) i : ℝ)) else fun _ => 0

theorem modelX_spec (M i : ℕ) (hi : i < M + 2) :
    modelX M i 0 = 0 ∧ modelX M i (M + 1) = 0
      ∧ ∀ k, k < M → modelX M i k + 4 * modelX M i (k + 1) + modelX M i (k + 2) = 3 * (daun3q (k + 1) i : ℝ) := by
  unfold modelX
  by_cases h : 1 ≤ i ∧ i + 1 < M + 2
  · rw [if_pos h]; exact padSol_spec M _
  · rw [if_neg h]
    refine ⟨rfl, rfl, fun k hk => ?_⟩
    cases i with
    | zero => rw [daun3q_succ_zero]; ring
    | succ i => rw [daun3q_of_gt (k + 1) (i + 1) (by omega)]; ring

theorem daun3C_eq (M m i : ℕ) (hi : 1 ≤ i) :
    (daun3C (M + 2) m (i - 1) : ℝ) = thomasSol M (fun k => 3 * (daun3q (k + 1) i : ℝ)) m := by
  rw [daun3C, thomasSol, Nat.add_sub_cancel, Nat.sub_add_cancel hi, Nat.cast_ofNat,
    (Nat.add_sub_add_right M 2 1 : M + 2 - 3 = M - 1)]

/-- the model's matrix entry is `p(j)[i]` plus the correction built from the Thomas solution -/
theorem daun3_entry (M j i : ℕ) (hj : j < M + 2) :
    (daun3 (M + 2) j i : ℝ) = (daun3p j i : ℝ)
      + ((if 2 ≤ j then modelX M i (j - 1) else 0) - (if j + 2 < M + 2 then modelX M i (j + 1) else 0)) := by
  unfold daun3 modelX
  by_cases h : 1 ≤ i ∧ i + 1 < M + 2
  · simp only [and_iff_left h, if_pos h, daun3C_eq M _ i h.1]
    rw [add_sub_assoc]
    congr 2
    · refine ite_congr rfl (fun h2 => ?_) fun _ => rfl
      obtain ⟨j, rfl⟩ := Nat.exists_eq_add_of_le' h2
      exact ((padSol_succ M _ j).trans (if_pos (Nat.lt_of_add_lt_add_right hj))).symm
    · exact ite_congr rfl (fun h2 => ((padSol_succ M _ j).trans (if_pos (Nat.lt_of_add_lt_add_right h2))).symm) fun _ => rfl
  · rw [if_neg h, if_neg (fun hh => h hh.2), if_neg (fun hh => h hh.2)]
    simp

/-- **Daun degree 3, the matrix the code builds** (`n = M + 2 ≥ 2` nodes): applied to any samples `f`, the coefficient matrix
    gives at every pixel `i < n` the Abel integral of the clamped cubic spline through the samples — the cubic Hermite interpolant
    whose node slopes vanish at both ends and solve `d_{k−1} + 4 d_k + d_{k+1} = 3 (f_{k+1} − f_{k−1})` at the inner nodes. -/
theorem daun3_eq_abel_spline (M i : ℕ) (hi : i < M + 2) (f : ℕ → ℝ) :
    sumRange (M + 2) (fun j => f j * (daun3 (M + 2) j i : ℝ)) = Abel (hermiteSpline (M + 2) f (clampedSlopes M f)) i := by
  obtain ⟨hd0, hdM, hd⟩ := clampedSlopes_spec M f
  obtain ⟨hX0, hXM, hX⟩ := modelX_spec M i hi
  rw [← daun3_forward_spline M i f _ _ hd0 hdM hd hX0 hXM hX]
  exact sumRange_congr _ _ _ fun j hj => by rw [daun3_entry M j i hj]

/-- a single node: the matrix is the projection of its value function -/
theorem daun3_one (f : ℕ → ℝ) : sumRange 1 (fun j => f j * (daun3 1 j 0 : ℝ)) = Abel (hermiteSpline 1 f (fun _ => 0)) (0 : ℕ) := by
  rw [abel_hermiteSpline]
  simp [sumRange, daun3]

/-- non-vacuity: three nodes, data (0, 1, 0): the only inner slope is 3·(0 − 0)/4 = 0 -/
example : clampedSlopes 1 (fun j => if j = 1 then 1 else 0) 1 = 0 := by
  simp [clampedSlopes, padSol, thomasSol, thomasX, thomasD]
end PyAbel.C09
