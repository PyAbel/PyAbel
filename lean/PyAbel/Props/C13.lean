/-
C13 — origin finders return the true centre of symmetric images and follow shifts.

Model: PyAbel/Model/Origin.lean.  A 1-D profile `w` on pixels `0 … n-1` is *symmetric about
`c/2`* (`c` a natural number: centre on the half-pixel grid) when `w i = w (c - i)` for `i ≤ c`
and `w i = 0` for `i > c`.  For an image the profile is the projection on the axis
(`center_of_mass` and the convolution finder both act on the two projections independently).
-/
import PyAbel.Model.Origin
import PyAbel.Lemmas.Linalg
import Mathlib.Algebra.BigOperators.Intervals
import Mathlib.Algebra.Order.BigOperators.Ring.Finset
import Mathlib.Data.Real.Basic
import Mathlib.Tactic.Ring
import Mathlib.Tactic.Linarith
import Mathlib.Algebra.BigOperators.Field
import Mathlib.Algebra.Order.Field.Rat

namespace PyAbel.C13
open PyAbel Finset

variable {K : Type} [Field K]

theorem sumRange_eq_finset (n : ℕ) (f : ℕ → K) : sumRange n f = ∑ i ∈ range n, f i :=
  sumRange_eq_sum n f

/-- symmetric about `c/2` with support inside `[0, c]`, `c < n` -/
def SymAbout (n c : ℕ) (w : ℕ → K) : Prop :=
  c < n ∧ (∀ i, i ≤ c → w i = w (c - i)) ∧ (∀ i, c < i → w i = 0)

/-! ### mirror symmetry about `k/2` within the frame -/

/-- the pixels `i` of the frame whose mirror image `k - i` lies in the frame too -/
def lagSet (n k : ℕ) : Finset ℕ := (range n).filter fun i => i ≤ k ∧ k - i < n

theorem mem_lagSet {n k i : ℕ} : i ∈ lagSet n k ↔ i < n ∧ i ≤ k ∧ k - i < n := by
  rw [lagSet, mem_filter, mem_range]

theorem sum_lagSet_reflect {M : Type} [AddCommMonoid M] (n k : ℕ) (g : ℕ → M) :
    ∑ i ∈ lagSet n k, g (k - i) = ∑ i ∈ lagSet n k, g i := by
  -- `i ↦ k - i` is an involution of `lagSet n k`
  have mem : ∀ i ∈ lagSet n k, k - i ∈ lagSet n k := fun i hi => by rw [mem_lagSet] at hi ⊢; omega
  have inv : ∀ i ∈ lagSet n k, k - (k - i) = i := fun i hi => Nat.sub_sub_self (mem_lagSet.1 hi).2.1
  exact sum_nbij' (k - ·) (k - ·) mem mem inv inv fun _ _ => rfl

theorem mirror_moment (n k : ℕ) (w : ℕ → K)
    (hF : ∀ i, i < n → (if i ≤ k ∧ k - i < n then w i = w (k - i) else w i = 0)) :
    2 * ∑ i ∈ range n, (i : K) * w i = (k : K) * ∑ i ∈ range n, w i := by
  have on : ∀ i ∈ lagSet n k, w (k - i) = w i := fun i hi =>
    have h := mem_lagSet.1 hi
    ((if_pos h.2).mp (hF i h.1)).symm
  have off : ∀ i ∈ range n, i ∉ lagSet n k → w i = 0 := fun i hi hn =>
    (if_neg fun h => hn (mem_lagSet.2 ⟨mem_range.1 hi, h⟩)).mp (hF i (mem_range.1 hi))
  have sub : lagSet n k ⊆ range n := filter_subset _ _
  -- both sums live on `lagSet n k`, where the reflection pairs the weight `i` with `k - i`
  rw [← sum_subset sub off, ← sum_subset sub (f := fun i : ℕ => (i : K) * w i) fun i hi hn => by rw [off i hi hn, mul_zero],
    two_mul]
  nth_rewrite 1 [← sum_lagSet_reflect]
  rw [← sum_add_distrib, mul_sum]
  refine sum_congr rfl fun i hi => ?_
  rw [on i hi, Nat.cast_sub (mem_lagSet.1 hi).2.1]; ring

/-- first moment about the centre vanishes -/
theorem moment_symmetric [CharZero K] (n c : ℕ) (w : ℕ → K) (h : SymAbout n c w) :
    2 * (∑ i ∈ range n, (i : K) * w i) = (c : K) * ∑ i ∈ range n, w i := by
  obtain ⟨hc, hsym, hout⟩ := h
  refine mirror_moment n c w fun i hi => ?_
  split_ifs with h
  · exact hsym i h.1
  · exact hout i (by omega)

/-- **centre of mass of a symmetric profile is its centre** (`c/2`, on the half-pixel grid) -/
theorem com_symmetric [CharZero K] (n c : ℕ) (w : ℕ → K) (h : SymAbout n c w)
    (hne : sumRange n w ≠ 0) : com1 n w = (c : K) / 2 := by
  rw [com1, div_eq_div_iff hne (OfNat.ofNat_ne_zero 2), mul_comm, sumRange_eq_sum, sumRange_eq_sum, moment_symmetric n c w h]

theorem sumRange_shift (n t : ℕ) (g : ℕ → K) :
    sumRange (n + t) (fun i => if t ≤ i then g (i - t) else 0) = sumRange n g := by
  rw [Nat.add_comm, sumRange_split, sumRange_eq_zero t _ fun i hi => if_neg (Nat.not_le.2 hi), zero_add]
  exact sumRange_congr n _ _ fun i _ => by rw [if_pos (Nat.le_add_right t i), Nat.add_sub_cancel_left]

theorem sumRange_pad (n m : ℕ) (g : ℕ → K) (hg : ∀ i, n ≤ i → g i = 0) : sumRange (n + m) g = sumRange n g := by
  rw [sumRange_split, sumRange_eq_zero m _ fun i _ => hg _ (Nat.le_add_right n i), add_zero]

/-- translating the content by `t` whole pixels moves the centre of mass by `t` -/
theorem com_translate (n t : ℕ) (w : ℕ → K) (hne : sumRange n w ≠ 0) :
    com1 (n + t) (fun i => if t ≤ i then w (i - t) else 0) = com1 n w + t := by
  -- the moved first moment is the shift of `j ↦ (j + t)·w j`
  have hm : sumRange (n + t) (fun i => (i : K) * if t ≤ i then w (i - t) else 0)
      = sumRange n (fun i => (i : K) * w i) + t * sumRange n w := by
    rw [← sumRange_smul, ← sumRange_add, ← sumRange_shift n t]
    refine sumRange_congr _ _ _ fun i _ => ?_
    split_ifs with h
    · rw [← add_mul, ← Nat.cast_add, Nat.sub_add_cancel h]
    · rw [mul_zero]
  rw [com1, hm, sumRange_shift, com1, add_div, mul_div_cancel_right₀ _ hne]

/-- multiplying the image by a non-zero constant does not move the centre of mass -/
theorem com_scale (n : ℕ) (w : ℕ → K) (a : K) (ha : a ≠ 0) :
    com1 n (fun i => a * w i) = com1 n w := by
  simp only [com1, mul_left_comm _ a, sumRange_smul]
  exact mul_div_mul_left _ _ ha

/-! ### corollaries: symmetric image moved by a shift, empty margins, overall scale -/

/-- **the centre-of-mass finder follows the shift of a symmetric image exactly**: a profile symmetric about `c/2`, moved by `t` whole
    pixels inside a frame widened by `t`, has its centre of mass at `c/2 + t` -/
theorem com_symmetric_shifted [CharZero K] (n c t : ℕ) (w : ℕ → K) (h : SymAbout n c w) (hne : sumRange n w ≠ 0) :
    com1 (n + t) (fun i => if t ≤ i then w (i - t) else 0) = (c : K) / 2 + t := by
  rw [com_translate n t w hne, com_symmetric n c w h hne]

/-- **empty margins do not move the centre of mass**: widening the frame by `m` pixels that hold no intensity leaves it where it was -/
theorem com_zero_padding (n m : ℕ) (w : ℕ → K) (hz : ∀ i, n ≤ i → w i = 0) : com1 (n + m) w = com1 n w := by
  rw [com1, com1, sumRange_pad n m w hz, sumRange_pad n m _ fun i hi => by rw [hz i hi, mul_zero]]

/-- the centre of mass of a symmetric profile does not depend on the frame it sits in, nor on its overall scale -/
theorem com_symmetric_any_frame [CharZero K] (n c m : ℕ) (w : ℕ → K) (a : K) (ha : a ≠ 0) (h : SymAbout n c w)
    (hne : sumRange n w ≠ 0) : com1 (n + m) (fun i => a * w i) = (c : K) / 2 := by
  rw [com_scale (n + m) w a ha, com_zero_padding n m w (fun i hi => h.2.2 i (h.1.trans_le hi)), com_symmetric n c w h hne]

example : SymAbout 5 3 (fun i => if i ≤ 3 then (1 : ℚ) else 0) :=
  ⟨by decide, fun i hi => (if_pos hi).trans (if_pos (Nat.sub_le 3 i)).symm, fun i hi => if_neg (not_le.2 hi)⟩

/-! ### autoconvolution: the symmetry centre is the only maximum (over ℝ) -/

theorem autoconv_eq_sum (n k : ℕ) (p : ℕ → K) : autoconv n p k = ∑ i ∈ lagSet n k, p i * p (k - i) := by
  rw [autoconv, sumRange_eq_finset, lagSet, sum_filter]

/-- squared mirror defect of `p` at pixel `i` for the lag `k`: what `2·(Σ p² − autoconv k)` is the sum of -/
def mirrorDefect (n k : ℕ) (p : ℕ → K) (i : ℕ) : K :=
  if i ≤ k ∧ k - i < n then (p i - p (k - i)) ^ 2 else 2 * p i ^ 2

theorem energy_sub_autoconv (n k : ℕ) (p : ℕ → K) :
    2 * (sumRange n (fun i => p i ^ 2) - autoconv n p k) = ∑ i ∈ range n, mirrorDefect n k p i := by
  unfold mirrorDefect
  rw [autoconv_eq_sum, sumRange_eq_finset, sum_ite, ← mul_sum, ← lagSet,
    ← sum_filter_add_sum_filter_not (range n) (fun i => i ≤ k ∧ k - i < n) fun i => p i ^ 2, ← lagSet]
  have e : ∀ i, (p i - p (k - i)) ^ 2 = p i ^ 2 + p (k - i) ^ 2 - 2 * (p i * p (k - i)) := fun i => by ring
  simp only [e, sum_sub_distrib, sum_add_distrib, ← mul_sum]
  rw [sum_lagSet_reflect n k fun i => p i ^ 2]
  ring

theorem mirrorDefect_nonneg (n k : ℕ) (p : ℕ → ℝ) (i : ℕ) : 0 ≤ mirrorDefect n k p i := by
  unfold mirrorDefect
  split_ifs
  · exact sq_nonneg _
  · exact mul_nonneg zero_le_two (sq_nonneg _)

theorem mirrorDefect_eq_zero (n k : ℕ) (p : ℕ → ℝ) (i : ℕ) :
    mirrorDefect n k p i = 0 ↔ if i ≤ k ∧ k - i < n then p i = p (k - i) else p i = 0 := by
  unfold mirrorDefect
  split_ifs
  · rw [sq_eq_zero_iff, sub_eq_zero]
  · rw [mul_eq_zero_iff_left two_ne_zero, sq_eq_zero_iff]

/-- every autoconvolution value is bounded by the energy `Σ p²` … -/
theorem autoconv_le (n : ℕ) (p : ℕ → ℝ) (k : ℕ) :
    autoconv n p k ≤ sumRange n (fun i => p i ^ 2) := by
  have := energy_sub_autoconv n k p
  have := sum_nonneg fun i (_ : i ∈ range n) => mirrorDefect_nonneg n k p i
  linarith

/-- … and the bound is attained at the symmetry centre `k = c`. -/
theorem autoconv_at_centre (n c : ℕ) (p : ℕ → ℝ) (h : SymAbout n c p) :
    autoconv n p c = sumRange n (fun i => p i ^ 2) := by
  obtain ⟨hc, hsym, hout⟩ := h
  unfold autoconv
  apply sumRange_congr
  intro i hi
  by_cases hic : i ≤ c
  · rw [if_pos ⟨hic, by omega⟩, ← hsym i hic, sq]
  · rw [if_neg (fun h => hic h.1), hout i (not_le.1 hic), sq, mul_zero]

/-- hence the symmetry centre maximises the autoconvolution (`centre_is_unique_argmax` below: strictly, for a non-zero profile) -/
theorem centre_is_argmax (n c : ℕ) (p : ℕ → ℝ) (h : SymAbout n c p) (k : ℕ) :
    autoconv n p k ≤ autoconv n p c := by
  rw [autoconv_at_centre n c p h]; exact autoconv_le n p k

/-- if the autoconvolution attains the energy at `k`, the profile is mirror-symmetric about `k/2` (within the frame) and vanishes where the
    mirror image falls outside -/
theorem autoconv_eq_energy (n : ℕ) (p : ℕ → ℝ) (k : ℕ) (h : autoconv n p k = sumRange n (fun i => p i ^ 2)) :
    ∀ i, i < n → (if i ≤ k ∧ k - i < n then p i = p (k - i) else p i = 0) := by
  have e := energy_sub_autoconv n k p
  rw [h, sub_self, mul_zero, eq_comm, sum_eq_zero_iff_of_nonneg fun i _ => mirrorDefect_nonneg n k p i] at e
  exact fun i hi => (mirrorDefect_eq_zero n k p i).1 (e i (mem_range.2 hi))

/-- first moment of `p²` for a profile mirror-symmetric about `k/2` in the sense of `autoconv_eq_energy` -/
theorem moment_of_mirror (n : ℕ) (p : ℕ → ℝ) (k : ℕ)
    (hF : ∀ i, i < n → (if i ≤ k ∧ k - i < n then p i = p (k - i) else p i = 0)) :
    2 * ∑ i ∈ range n, (i : ℝ) * p i ^ 2 = (k : ℝ) * ∑ i ∈ range n, p i ^ 2 := by
  refine mirror_moment n k (fun i => p i ^ 2) fun i hi => ?_
  have := hF i hi
  split_ifs at this ⊢
  · rw [this]
  · rw [this, zero_pow two_ne_zero]

/-- equality in a termwise-bounded sum forces equality of every term -/
theorem eq_of_sum_eq {ι : Type} (s : Finset ι) (a b : ι → ℝ) (hle : ∀ i ∈ s, a i ≤ b i) (heq : ∑ i ∈ s, a i = ∑ i ∈ s, b i) :
    ∀ i ∈ s, a i = b i :=
  (sum_eq_sum_iff_of_le hle).1 heq

/-- the energy is attained at one lag at most: that lag is twice the centroid of `p²` -/
theorem energy_lag_unique (n : ℕ) (p : ℕ → ℝ) (k c : ℕ) (hE : sumRange n (fun i => p i ^ 2) ≠ 0)
    (hk : autoconv n p k = sumRange n (fun i => p i ^ 2)) (hc : autoconv n p c = sumRange n (fun i => p i ^ 2)) : k = c := by
  have mk := moment_of_mirror n p k (autoconv_eq_energy n p k hk)
  have mc := moment_of_mirror n p c (autoconv_eq_energy n p c hc)
  rw [sumRange_eq_finset] at hE
  exact Nat.cast_injective (mul_right_cancel₀ hE (mk.symm.trans mc))

/-- **the symmetry centre is the only maximum** of the autoconvolution of a non-zero profile: at every other lag the value is strictly
    smaller, so `argmax` (first or any) returns the centre — no ties -/
theorem centre_is_unique_argmax (n c : ℕ) (p : ℕ → ℝ) (h : SymAbout n c p) (hp : ∃ i, p i ≠ 0) (k : ℕ) (hk : k ≠ c) :
    autoconv n p k < autoconv n p c := by
  have hc := autoconv_at_centre n c p h
  obtain ⟨i, hi⟩ := hp
  have hin : i < n := not_le.1 fun hge => hi (h.2.2 i (h.1.trans_le hge))
  have hE : sumRange n (fun i => p i ^ 2) ≠ 0 := by
    rw [sumRange_eq_finset]
    exact (lt_of_lt_of_le (sq_pos_of_ne_zero hi)
      (single_le_sum (f := fun j => p j ^ 2) (fun j _ => sq_nonneg _) (mem_range.2 hin))).ne'
  refine lt_of_le_of_ne (centre_is_argmax n c p h k) fun heq => hk ?_
  exact energy_lag_unique n p k c hE (heq.trans hc) hc

/-! non-vacuity: the profile 1,3,3,1 is symmetric about 3/2 -/
example : SymAbout 5 3 (fun i => if i = 0 ∨ i = 3 then (1 : ℚ) else if i = 1 ∨ i = 2 then 3 else 0) :=
  ⟨by decide, by decide, fun i hi => (if_neg (by omega)).trans (if_neg (by omega))⟩

end PyAbel.C13
