/-
C17 — documented equivalences between methods and options.

Models: Model/Dasch.lean (onion-peeling weights, daun degree-0 projections), Model/Linalg.lean
(triangular solve).  Wrapper equalities are decided over Gen/Wrappers.lean (regenerated from
/repo by harness/gen_wrappers.py) in Props/C17Wrappers.lean.
-/
import PyAbel.Lemmas.Linalg
import PyAbel.Lemmas.RealInst
import Mathlib.LinearAlgebra.Matrix.NonsingularInverse
import Mathlib.Analysis.SpecialFunctions.Sqrt

namespace PyAbel.C17
open PyAbel

/-! ### 1. `daun` with default options is `onion_peeling`

`daun_transform` (degree 0, no regularisation) solves `Aᵀ y = d` by `solve_triangular`;
`onion_peeling_transform` multiplies by `inv(W)`.  (a) the matrices are the same, entry by entry;
(b) solving the triangular system equals multiplying by any inverse of it. -/

theorem daun_default_eq_onion_peeling_matrix (i j : ℕ) : (daun0 j i : ℝ) = onionW i j := by
  have hs : ∀ a : ℝ, Real.sqrt (a ^ 2 - 4 * (i : ℝ) ^ 2) = 2 * Real.sqrt (a / 2 * (a / 2) - (i : ℝ) ^ 2) := fun a => by
    rw [show a ^ 2 - 4 * (i : ℝ) ^ 2 = 2 ^ 2 * (a / 2 * (a / 2) - (i : ℝ) ^ 2) by ring, Real.sqrt_mul (sq_nonneg 2),
      Real.sqrt_sq zero_le_two]
  unfold daun0 onionW
  push_cast
  split_ifs with h hij
  · rfl
  · exact (hs _).symm
  · rw [mul_sub]
    exact (congrArg₂ _ (hs _) (hs _)).symm

/-- Solving `W y = d` by back substitution gives the same vector as multiplying `d` by any
    matrix `D` that is a right inverse of `W` on vectors (`D = inv(W)` in the code). -/
theorem solve_eq_inverse_mul {K : Type} [Field K] (n : ℕ) (W D : ℕ → ℕ → K)
    (hW : ∀ i, i < n → W i i ≠ 0) (htri : ∀ i j, j < i → W i j = 0)
    (hinv : ∀ (d : ℕ → K) i, i < n → matVec n W (matVec n D d) i = d i)
    (d : ℕ → K) (i : ℕ) (hi : i < n) :
    (backSubst W d n).getD i 0 = matVec n D d i :=
  backSubst_unique W d _ n hW htri (hinv d) i hi

/-! ### 2. zero regularisation strength equals no regularisation

The Tikhonov forms used by `daun` (`'diff'`, `'L2'`) and `rbasex` (`'L2'`, `'diff'`) are
`Aᵀ (A Aᵀ + s·L)⁻¹`; at `s = 0` this is `A⁻¹` for every invertible `A`, whatever `L`. -/

theorem tikhonov_zero_eq_inverse {n : Type} [Fintype n] [DecidableEq n] {K : Type} [Field K]
    (A L : Matrix n n K) (hA : IsUnit A.det) :
    A.transpose * (A * A.transpose + (0 : K) • L)⁻¹ = A⁻¹ := by
  rw [zero_smul, add_zero, Matrix.mul_inv_rev, Matrix.mul_nonsing_inv_cancel_left _ _ (Matrix.isUnit_det_transpose A hA)]

/-! ### 3. the non-negative solvers return the unconstrained solution when it is feasible -/

/-- squared residual `‖A x − b‖²` of an `m × n` system -/
def resid (m n : ℕ) (A : ℕ → ℕ → ℝ) (b x : ℕ → ℝ) : ℝ :=
  sumRange m (fun i => (matVec n A x i - b i) ^ 2)

/-- `x` is a solution of the non-negative least-squares problem `min ‖A x − b‖, x ≥ 0` -/
def IsNNLS (m n : ℕ) (A : ℕ → ℕ → ℝ) (b x : ℕ → ℝ) : Prop :=
  (∀ j, j < n → 0 ≤ x j) ∧ ∀ y : ℕ → ℝ, (∀ j, j < n → 0 ≤ y j) → resid m n A b x ≤ resid m n A b y

theorem sumRange_nonneg (m : ℕ) (f : ℕ → ℝ) (h : ∀ i, i < m → 0 ≤ f i) : 0 ≤ sumRange m f := by
  rw [sumRange_eq_sum]
  exact Finset.sum_nonneg fun i hi => h i (Finset.mem_range.mp hi)

theorem sumRange_eq_zero_of_nonneg (m : ℕ) (f : ℕ → ℝ) (h : ∀ i, i < m → 0 ≤ f i)
    (hz : sumRange m f = 0) : ∀ i, i < m → f i = 0 := by
  rw [sumRange_eq_sum, Finset.sum_eq_zero_iff_of_nonneg fun i hi => h i (Finset.mem_range.mp hi)] at hz
  exact fun i hi => hz i (Finset.mem_range.mpr hi)

theorem resid_eq_zero (m n : ℕ) (A : ℕ → ℕ → ℝ) (b x0 : ℕ → ℝ) (hsol : ∀ i, i < m → matVec n A x0 i = b i) :
    resid m n A b x0 = 0 :=
  sumRange_eq_zero m _ fun i hi => by rw [hsol i hi, sub_self, zero_pow two_ne_zero]

theorem resid_nonneg (m n : ℕ) (A : ℕ → ℕ → ℝ) (b x : ℕ → ℝ) : 0 ≤ resid m n A b x :=
  sumRange_nonneg m _ fun _ _ => sq_nonneg _

/-- If the unconstrained solution `x₀` (`A x₀ = b`) is non-negative, it solves the NNLS problem … -/
theorem nnls_feasible_is_solution (m n : ℕ) (A : ℕ → ℕ → ℝ) (b x0 : ℕ → ℝ)
    (hsol : ∀ i, i < m → matVec n A x0 i = b i) (hpos : ∀ j, j < n → 0 ≤ x0 j) :
    IsNNLS m n A b x0 := by
  refine ⟨hpos, fun y _ => ?_⟩
  rw [resid_eq_zero m n A b x0 hsol]
  exact resid_nonneg m n A b y

/-- … and it is the only one when `A` is injective on vectors (e.g. invertible). -/
theorem nnls_eq_unconstrained_when_feasible (m n : ℕ) (A : ℕ → ℕ → ℝ) (b x0 x : ℕ → ℝ)
    (hsol : ∀ i, i < m → matVec n A x0 i = b i) (hpos : ∀ j, j < n → 0 ≤ x0 j)
    (hinj : ∀ u v : ℕ → ℝ, (∀ i, i < m → matVec n A u i = matVec n A v i) → ∀ j, j < n → u j = v j)
    (hx : IsNNLS m n A b x) : ∀ j, j < n → x j = x0 j := by
  have hz : resid m n A b x = 0 :=
    le_antisymm (resid_eq_zero m n A b x0 hsol ▸ hx.2 x0 hpos) (resid_nonneg m n A b x)
  refine hinj x x0 fun i hi => ?_
  have h := sumRange_eq_zero_of_nonneg m _ (fun i _ => sq_nonneg _) hz i hi
  rw [hsol i hi, ← sub_eq_zero]
  exact pow_eq_zero_iff two_ne_zero |>.mp h

/-! non-vacuity: the 1×1 system 2·x = 4 has the feasible solution 2 -/
example : IsNNLS 1 1 (fun _ _ => 2) (fun _ => 4) (fun _ => 2) :=
  nnls_feasible_is_solution 1 1 _ _ _ (fun _ _ => by norm_num [matVec, sumRange]) fun _ _ => zero_le_two

end PyAbel.C17
