/-
C05 — abel.Transform = centre, symmetrise, transform each quadrant, reassemble.

Model: PyAbel/Model/Pipeline.lean on top of Model/Symmetry.lean and Model/Center.lean.
`T` is an arbitrary shape-preserving half-image transform.
-/
import PyAbel.Model.Pipeline
import Mathlib.Algebra.Field.Basic
import Mathlib.Tactic.SplitIfs
import Mathlib.Data.Rat.Defs

set_option linter.unusedSectionVars false

namespace PyAbel.C05
open PyAbel

variable {α : Type}

/-- shape hypothesis on the four transformed quadrants: each has the quadrant shape -/
def QuadShape (A : Quads α) (n m : Nat) : Prop :=
  A.q0.rows = halfUp n ∧ A.q0.cols = halfUp m ∧ A.q1.rows = halfUp n ∧ A.q1.cols = halfUp m ∧
  A.q2.rows = halfUp n ∧ A.q2.cols = halfUp m ∧ A.q3.rows = halfUp n ∧ A.q3.cols = halfUp m

/-! ### 1. the joining step, and the shape of its output -/

theorem halfUp_sub_mod (n : Nat) : halfUp n - n % 2 = n / 2 := Nat.add_sub_cancel ..

theorem half_add_halfUp (n : Nat) : n / 2 + halfUp n = n := by unfold halfUp; omega

theorem halfUp_mirror {c j : Nat} (h : ¬j < c / 2) : halfUp c - 1 - (j - c / 2) = c - 1 - j := by
  have := half_add_halfUp c; omega

/-- `put_image_quadrants` after the `symmetry_axis` substitutions: `a top right` is the array that ends up in that position -/
def join (a : Bool → Bool → Img α) (rows cols : Nat) : Img α :=
  let dr := rows % 2; let dc := cols % 2
  let a0 := a true true; let a1 := a true false; let a2 := a false false
  ((⟨a1.rows - dr, a1.cols - dc, fun i j => a1.px i (j + dc)⟩ : Img α).fliplr.hcat ⟨a0.rows - dr, a0.cols, a0.px⟩).vcat
    ((⟨a2.rows, a2.cols - dc, fun i j => a2.px i (j + dc)⟩ : Img α).fliplr.hcat (a false true)).flipud

theorem putQuadrants_eq_join (A : Quads α) (n m : Nat) (ax : SymAxis) :
    putQuadrants A n m ax = join (pickQuadrant ax A) n m := by
  cases ax <;> rfl

theorem join_shape (a : Bool → Bool → Img α) (n m : Nat) (h : ∀ t r, (a t r).rows = halfUp n ∧ (a t r).cols = halfUp m) :
    (join a n m).rows = n ∧ (join a n m).cols = m := by
  simp only [join, Img.vcat, Img.hcat, Img.fliplr, Img.flipud, (h _ _).1, (h _ _).2, halfUp_sub_mod, half_add_halfUp, and_self]

theorem join_px (a : Bool → Bool → Img α) (n m : Nat) (h : ∀ t r, (a t r).rows = halfUp n ∧ (a t r).cols = halfUp m)
    (i j : Nat) :
    (join a n m).px i j = (a (decide (i < n / 2)) (decide (m / 2 ≤ j))).px
      (if i < n / 2 then i else n - 1 - i) (if m / 2 ≤ j then j - m / 2 else halfUp m - 1 - j) := by
  have hcol : ¬m / 2 ≤ j → m / 2 - 1 - j + m % 2 = halfUp m - 1 - j := by unfold halfUp; omega
  -- `hcat` tests `j < m / 2`
  simp only [join, Img.vcat, Img.hcat, Img.fliplr, Img.flipud, (h _ _).1, (h _ _).2, halfUp_sub_mod, ← Nat.not_le (a := m / 2)]
  by_cases hi' : i < n / 2 <;> by_cases hj' : m / 2 ≤ j <;>
    simp only [hi', hj', if_true, if_false, decide_true, decide_false, halfUp_mirror, hcol, not_false_eq_true, not_true_eq_false]

theorem pickQuadrant_shape {A : Quads α} {n m : Nat} (h : QuadShape A n m) (ax : SymAxis) (t r : Bool) :
    (pickQuadrant ax A t r).rows = halfUp n ∧ (pickQuadrant ax A t r).cols = halfUp m := by
  obtain ⟨h0r, h0c, h1r, h1c, h2r, h2c, h3r, h3c⟩ := h
  cases ax <;> cases t <;> cases r <;> exact ⟨‹_›, ‹_›⟩

theorem put_shape (A : Quads α) (n m : Nat) (ax : SymAxis) (h : QuadShape A n m) :
    (putQuadrants A n m ax).rows = n ∧ (putQuadrants A n m ax).cols = m := by
  rw [putQuadrants_eq_join]
  exact join_shape _ n m (pickQuadrant_shape h ax)

/-! ### 2. the pixel formula of the reassembly

Output pixel `(i, j)` is read from the transformed quadrant selected by `pickQuadrant`
— rows above the centre row from the upper quadrants, the centre row and below from the lower
ones; the centre column and everything to its right from the right-hand quadrants — at the
quadrant-local position (distance from the centre row, distance from the centre column). -/

theorem put_pixel (A : Quads α) (n m : Nat) (ax : SymAxis) (h : QuadShape A n m)
    (i j : Nat) (hi : i < n) (_hj : j < m) :
    (putQuadrants A n m ax).px i j =
      (pickQuadrant ax A (decide (i < n / 2)) (decide (m / 2 ≤ j))).px
        (if i < n / 2 then i else n - 1 - i)
        (if m / 2 ≤ j then j - m / 2 else halfUp m - 1 - j) := by
  rw [putQuadrants_eq_join]
  exact join_px _ n m (pickQuadrant_shape h ax) i j

/-! ### 3. quadrants the code does not compute (`None`) are never read -/

/-- Each quadrant matters only where the substitutions of `put_image_quadrants` leave it in place. -/
theorem putQuadrants_congr (A B : Quads α) (n m : Nat) (ax : SymAxis)
    (h1 : A.q1 = B.q1)
    (h2 : ax.has1 = false → A.q2 = B.q2)
    (h0 : ax.has0 = false → A.q0 = B.q0)
    (h3 : ax = .none → A.q3 = B.q3) :
    putQuadrants A n m ax = putQuadrants B n m ax := by
  have pick : pickQuadrant ax A = pickQuadrant ax B := by
    funext t r
    cases ax <;> cases t <;> cases r <;> first | exact h1 | exact h0 rfl | exact h2 rfl | exact h3 rfl
  rw [putQuadrants_eq_join, putQuadrants_eq_join, pick]

theorem unread_quadrants (A B : Quads α) (n m : Nat) (ax : SymAxis)
    (hA : QuadShape A n m) (hB : QuadShape B n m)
    (h1 : A.q1 = B.q1)
    (h2 : ax.has1 = false → A.q2 = B.q2)
    (h0 : ax.has0 = false → A.q0 = B.q0)
    (h3 : ax = .none → A.q3 = B.q3) :
    putQuadrants A n m ax ≈ᵢ putQuadrants B n m ax := by
  rw [putQuadrants_congr A B n m ax h1 h2 h0 h3]
  exact Img.Equiv.refl _

/-! ### 4. the whole quadrant pipeline, for any shape-preserving half-image transform `T` -/

section
variable {K : Type} [Field K]

/-- `T` returns an array of the shape it was given (true of every half-image transform) -/
def ShapePreserving (T : Img K → Img K) : Prop := ∀ q, (T q).rows = q.rows ∧ (T q).cols = q.cols

theorem get_shape (im : Img K) (ax : SymAxis) (m : Mask) :
    QuadShape (getQuadrants im ax m) im.rows im.cols := by
  cases ax <;> exact ⟨rfl, rfl, rfl, rfl, rfl, rfl, rfl, rfl⟩

theorem QuadShape.map {T : Img K → Img K} (hT : ShapePreserving T) {Q : Quads K} {n m : Nat} (h : QuadShape Q n m) :
    QuadShape ⟨T Q.q0, T Q.q1, T Q.q2, T Q.q3⟩ n m := by
  simp only [QuadShape, (hT _).1, (hT _).2]
  exact h

theorem transform_shape (T : Img K → Img K) (hT : ShapePreserving T) (im : Img K) (ax : SymAxis) (m : Mask) :
    (transformQuadrants T im ax m).rows = im.rows ∧ (transformQuadrants T im ax m).cols = im.cols :=
  put_shape _ _ _ _ ((get_shape im ax m).map hT)

/-- Every output pixel is the pixel, at the quadrant-local position, of `T` applied to the
    symmetrised, identically oriented quadrant selected by `pickQuadrant`: upper quadrants above the
    centre row, lower ones from the centre row down; right-hand quadrants from the centre column
    rightwards. -/
theorem transform_pixel (T : Img K → Img K) (hT : ShapePreserving T) (im : Img K) (ax : SymAxis) (m : Mask)
    (i j : Nat) (hi : i < im.rows) (hj : j < im.cols) :
    (transformQuadrants T im ax m).px i j =
      (pickQuadrant ax
          (let Q := getQuadrants im ax m; (⟨T Q.q0, T Q.q1, T Q.q2, T Q.q3⟩ : Quads K))
          (decide (i < im.rows / 2)) (decide (im.cols / 2 ≤ j))).px
        (if i < im.rows / 2 then i else im.rows - 1 - i)
        (if im.cols / 2 ≤ j then j - im.cols / 2 else halfUp im.cols - 1 - j) :=
  put_pixel _ _ _ _ ((get_shape im ax m).map hT) i j hi hj


/-- **the result depends on the method only through its action on the four symmetrised quadrants**: two half-image transforms that
    agree on those four arrays give the same image (no other data — the raw image, another quadrant's neighbourhood, earlier calls —
    enters the pipeline) -/
theorem transform_congr (T T' : Img K → Img K) (im : Img K) (ax : SymAxis) (m : Mask)
    (h0 : T (getQuadrants im ax m).q0 = T' (getQuadrants im ax m).q0)
    (h1 : T (getQuadrants im ax m).q1 = T' (getQuadrants im ax m).q1)
    (h2 : T (getQuadrants im ax m).q2 = T' (getQuadrants im ax m).q2)
    (h3 : T (getQuadrants im ax m).q3 = T' (getQuadrants im ax m).q3) :
    transformQuadrants T im ax m = transformQuadrants T' im ax m := by
  simp only [transformQuadrants, h0, h1, h2, h3]

/-- **two images with the same symmetrised quadrants are transformed to the same result** — in particular an image and its
    symmetrised version, whenever symmetrisation is a projector on the quadrants (C06) -/
theorem transform_depends_on_quadrants (T : Img K → Img K) (im im' : Img K) (ax : SymAxis) (m : Mask)
    (hq : getQuadrants im ax m = getQuadrants im' ax m) (hr : im.rows = im'.rows) (hc : im.cols = im'.cols) :
    transformQuadrants T im ax m = transformQuadrants T im' ax m := by
  simp only [transformQuadrants, hq, hr, hc]

/-- a pipeline stage applied after the method (`S ∘ T`, e.g. a per-quadrant scaling) keeps the frame of the image -/
theorem transform_comp_shape (S T : Img K → Img K) (hS : ShapePreserving S) (hT : ShapePreserving T) (im : Img K) (ax : SymAxis)
    (m : Mask) : (transformQuadrants (S ∘ T) im ax m).rows = im.rows ∧ (transformQuadrants (S ∘ T) im ax m).cols = im.cols :=
  transform_shape (S ∘ T) (fun q => ⟨((hS (T q)).1).trans (hT q).1, ((hS (T q)).2).trans (hT q).2⟩) im ax m

/-- With the identity "transform" the pipeline is exactly symmetrisation (C06). -/
theorem transform_id (im : Img K) (ax : SymAxis) (m : Mask) :
    transformQuadrants id im ax m = symmetrise im ax m := rfl

end

/-! ### 5. option routing (decision logic of `Transform.__init__` / `_integration`)

`dr` reaches the angular integration iff it is in `transform_options` and not already in
`angular_integration_options`; an explicit value there wins. -/

def integrationDr (transformDr integrationDr : Option Nat) : Option Nat :=
  match integrationDr with
  | some d => some d
  | none => transformDr

theorem explicit_integration_dr_wins (t : Option Nat) (d : Nat) : integrationDr t (some d) = some d := rfl
theorem transform_dr_forwarded (d : Nat) : integrationDr (some d) none = some d := rfl
theorem no_dr_no_forward : integrationDr none none = none := rfl

/-! ### 6. non-vacuity -/

example : ShapePreserving (stubT : Img ℚ → Img ℚ) := fun q => ⟨rfl, rfl⟩

end PyAbel.C05
