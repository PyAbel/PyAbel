/-
C08 — a damaged or concurrently written basis file never changes a result.

(i)  `.npy` container (Model/Npy.lean): decoding an encoded file returns it; **every strict prefix**
     of a well-formed file is rejected — the crash points of an interrupted `np.save`.
(ii) cache state machine (Model/Cache.lean, theorems in Props/C07.lean): damage and removal are
     operations of the machine, so `C07.call_spec` / `C07.history_independent` already cover every
     fault sequence: a call returns the right basis or raises; `C07.no_damage_no_raise` is recovery.
     They are restated here for the fault alphabet.
-/
import PyAbel.Model.Npy
import PyAbel.Props.C07
import Mathlib.Tactic.SplitIfs
import Mathlib.Tactic.Linarith

namespace PyAbel.C08
open PyAbel.Npy

variable (shapeOf : Bytes → Option (List Nat))

theorem magic_length : magic.length = 8 := rfl

theorem readU16le_u16le (n : Nat) (h : n < 65536) : readU16le (u16le n) = some n := by
  simp only [u16le, readU16le, UInt8.toNat_ofNat']
  rw [Nat.mod_mod, Nat.mod_mod, Nat.mod_eq_of_lt (Nat.div_lt_of_lt_mul h), Nat.mod_add_div]

theorem readU16le_length {l : Bytes} {n : Nat} (h : readU16le l = some n) : l.length = 2 :=
  match l, h with
  | [_, _], _ => rfl

theorem encode_lengthField (header payload : Bytes) :
    ((encode header payload).drop 8).take 2 = u16le header.length := by
  simp [encode, magic, u16le]

theorem encode_length (header payload : Bytes) : (encode header payload).length = 10 + header.length + payload.length := by
  simp only [encode, List.length_append]; rfl

/-- `np.load(np.save(a)) = a` -/
theorem decode_encode (header payload : Bytes) (shape : List Nat) (hh : header.length < 65536)
    (hs : shapeOf header = some shape) (hp : payload.length = 8 * prod shape) :
    decode shapeOf (encode header payload) = .ok shape payload := by
  have e1 : (encode header payload).take 8 = magic := by simp [encode, magic, u16le]
  have e3 : ((encode header payload).drop 10).take header.length = header := by simp [encode, magic, u16le]
  have e4 : (encode header payload).drop (10 + header.length) = payload :=
    List.drop_left' (by rw [List.length_append]; rfl)
  unfold decode
  simp only [e1, ne_eq, not_true_eq_false, if_false, encode_lengthField, readU16le_u16le _ hh, e3, lt_irrefl, hs, e4]
  rw [← hp]
  simp

/-! ### what is accepted is complete; appended bytes change nothing; short files are rejected -/

/-- **What is accepted is complete**: whenever `np.load` accepts a file, the header is entirely present, the shape is the one its
    header names, and the payload handed out is exactly the `8 · ∏ shape` bytes that follow the header — never fewer numbers than the
    shape announces, never bytes from elsewhere. -/
theorem decode_ok_sound (file : Bytes) (shape : List Nat) (body : Bytes) (h : decode shapeOf file = .ok shape body) :
    file.take 8 = magic ∧
    ∃ hlen, readU16le ((file.drop 8).take 2) = some hlen ∧ 10 + hlen + 8 * prod shape ≤ file.length ∧
      shapeOf ((file.drop 10).take hlen) = some shape ∧
      body = (file.drop (10 + hlen)).take (8 * prod shape) ∧ body.length = 8 * prod shape := by
  unfold decode at h
  dsimp only at h
  split_ifs at h with hm
  split at h
  · cases h
  next hlen hr =>
    split_ifs at h with hh
    split at h
    · cases h
    next sh hs =>
      split_ifs at h with hb
      cases h
      -- each window read is no longer than what is left of the file at its offset
      have h2 := (readU16le_length hr).ge.trans (List.length_take_le' ..)
      have hh' := (not_lt.1 hh).trans (List.length_take_le' ..)
      have hb' := (not_lt.1 hb).trans (List.length_take_le' ..)
      rw [List.length_drop] at h2 hh' hb'
      exact ⟨not_not.1 hm, hlen, hr, by omega, hs, rfl, (List.length_take_le ..).antisymm (not_lt.1 hb)⟩

theorem take_drop_append (file extra : Bytes) (a n : Nat) (h : a + n ≤ file.length) :
    ((file ++ extra).drop a).take n = (file.drop a).take n := by
  rw [List.drop_append_of_le_length (Nat.le_of_add_right_le h),
    List.take_append_of_le_length (by rw [List.length_drop]; exact Nat.le_sub_of_add_le' h)]

/-- **Appending never changes an accepted basis**: if a file is accepted, the same file followed by any further bytes (a writer that is
    still appending, a second writer's tail) is accepted with the same shape and the same payload. -/
theorem decode_append (file extra : Bytes) (shape : List Nat) (body : Bytes) (h : decode shapeOf file = .ok shape body) :
    decode shapeOf (file ++ extra) = .ok shape body := by
  -- the decoder looks at `file ++ extra` through the same four windows, all of them inside `file`
  obtain ⟨-, hlen, hr, hle, hs, -⟩ := decode_ok_sound shapeOf file shape body h
  rw [← h]
  simp only [decode, List.take_append_of_le_length (show 8 ≤ file.length by omega), take_drop_append file extra 8 2 (by omega), hr,
    take_drop_append file extra 10 hlen (by omega), hs, take_drop_append file extra (10 + hlen) (8 * prod shape) hle]

/-- **Every strict prefix of a well-formed basis file is rejected** (an interrupted save is never
    mistaken for a basis, whatever byte it stopped at — including before the header). -/
theorem decode_prefix_fails (header payload : Bytes) (shape : List Nat) (hh : header.length < 65536)
    (hs : shapeOf header = some shape) (hp : payload.length = 8 * prod shape)
    (k : Nat) (hk : k < (encode header payload).length) :
    decode shapeOf ((encode header payload).take k) = .error := by
  cases hd : decode shapeOf ((encode header payload).take k) with
  | error => rfl
  | ok sh body =>
    -- an accepted prefix is accepted with the same answer once the rest is appended: that answer is `shape`, `payload`
    have hfull := decode_append shapeOf _ ((encode header payload).drop k) sh body hd
    rw [List.take_append_drop, decode_encode shapeOf header payload shape hh hs hp] at hfull
    cases hfull
    -- so the prefix holds a header length field, which is that of the file, and all the bytes this field and `shape` announce
    obtain ⟨_, hlen, hr, hle, _⟩ := decode_ok_sound shapeOf _ shape payload hd
    rw [← take_drop_append _ ((encode header payload).drop k) 8 2 (by omega), List.take_append_drop, encode_lengthField,
      readU16le_u16le _ hh] at hr
    cases hr
    have := List.length_take_le k (encode header payload)
    rw [encode_length] at hk
    omega

/-- trailing bytes after a complete basis file are ignored -/
theorem decode_encode_append (header payload extra : Bytes) (shape : List Nat) (hh : header.length < 65536)
    (hs : shapeOf header = some shape) (hp : payload.length = 8 * prod shape) :
    decode shapeOf (encode header payload ++ extra) = .ok shape payload :=
  decode_append shapeOf _ extra shape payload (decode_encode shapeOf header payload shape hh hs hp)

/-- a file that does not start with the `.npy` magic string is rejected, whatever follows -/
theorem decode_bad_magic (file : Bytes) (h : file.take 8 ≠ magic) : decode shapeOf file = .error := by
  unfold decode; rw [if_pos h]

/-- a file shorter than its header announces, or than its shape needs, is rejected -/
theorem decode_short_fails (file : Bytes) (hlen : Nat) (shape : List Nat)
    (hr : readU16le ((file.drop 8).take 2) = some hlen) (hs : shapeOf ((file.drop 10).take hlen) = some shape)
    (hshort : file.length < 10 + hlen + 8 * prod shape) : decode shapeOf file = .error := by
  cases hd : decode shapeOf file with
  | error => rfl
  | ok sh body =>
    obtain ⟨_, hlen', hr', hle, hs', _, _⟩ := decode_ok_sound shapeOf file sh body hd
    rw [hr] at hr'; cases hr'
    rw [hs] at hs'; cases hs'
    omega

/-! ### fault sequences on the cache machine (restated from C07 for the fault alphabet) -/

open PyAbel.Cache PyAbel.C07 in
/-- From any reachable state, after any further sequence of damage / removal / calls, a call returns
    the right basis or raises — it never returns different numbers. -/
theorem faulted_call_safe {K : Type} [DecidableEq K] (R : Rules K) (L : Lawful R)
    (before faults : List (Op K)) (r : K) (useDir : Bool) :
    Right R r (call R (run R (run R State.init before) faults) r useDir).2 :=
  (call_spec R L _ (run_inv R L _ (run_inv R L _ (init_inv R) before) faults) r useDir).2

open PyAbel.Cache PyAbel.C07 in
/-- Recovery: once no usable file is damaged (removed, or overwritten by the library's own save),
    calls stop raising. -/
theorem recovers_after_removal {K : Type} [DecidableEq K] (R : Rules K) (s : State K) (r : K) (useDir : Bool)
    (hclean : ∀ f, bestFile R r s.disk = some f → f.2 = .valid) :
    (call R s r useDir).2 ≠ .raised :=
  no_damage_no_raise R s r useDir hclean _ rfl

open PyAbel.Cache PyAbel.C07 in
/-- Several processes sharing a basis directory: from one process's point of view the others'
    (atomic) saves are `publish` operations interleaved anywhere in its own history, together with
    any clean-ups and removals.  Whatever the interleaving, its calls return the right basis. -/
theorem multi_process_safe {K : Type} [DecidableEq K] (R : Rules K) (L : Lawful R)
    (interleaving : List (Op K)) (r : K) (useDir : Bool) :
    Right R r (call R (run R State.init interleaving) r useDir).2 :=
  history_independent R L interleaving r useDir

/-! non-vacuity: a concrete 2×1 float64 file -/
example : let h : Bytes := "{'descr': '<f8', 'fortran_order': False, 'shape': (2, 1), }\n".toUTF8.toList
    parseShape h = some [2, 1] := by decide +kernel

end PyAbel.C08
