/-
C15 — image symmetries of the radial-bin solve (Model/Distributions.lean: `solveBin`).

A symmetry of the image acts on the contributions (ω, t, v) of a bin: by a permutation (visiting order; the left–right mirror of
image, weights and origin), by t ↦ −t (top–bottom mirror: cos θ changes sign), by a common factor on ω and v (weights) or on v
alone (image).  Each takes the moments to a multiple of themselves, and the solvers answer with a known factor per coefficient
(`C14.solve2_equivariant`, `C14.solve3_equivariant`).
-/
import PyAbel.Props.C15
import PyAbel.Props.C14

namespace PyAbel.C15
open PyAbel PyAbel.Distr

variable {K : Type} [Field K] [DecidableEq K]

omit [DecidableEq K] in
theorem weightMoment_perm {ps ps' : List (Contrib K)} (h : ps.Perm ps') (k : ℕ) : weightMoment ps k = weightMoment ps' k :=
  (C14.moments_perm ps ps' h k).1

omit [DecidableEq K] in
theorem dataMoment_perm {ps ps' : List (Contrib K)} (h : ps.Perm ps') (k : ℕ) : dataMoment ps k = dataMoment ps' k :=
  (C14.moments_perm ps ps' h k).2

/-- **the order of the pixels is immaterial** -/
theorem solveBin_perm (N : ℕ) {ps ps' : List (Contrib K)} (h : ps.Perm ps') : solveBin N ps = solveBin N ps' := by
  unfold solveBin
  simp only [weightMoment_perm h, dataMoment_perm h]

/-- the contribution of the top–bottom mirror pixel: cos θ changes sign -/
def flipT (p : Contrib K) : Contrib K := ⟨p.ω, -p.t, p.v⟩

omit [DecidableEq K] in
theorem pow_neg_eq (x : K) (k : ℕ) : Distr.pow (-x) k = (-1) ^ k * Distr.pow x k := by
  rw [C14.pow_eq, C14.pow_eq, neg_pow]

omit [DecidableEq K] in
theorem weightMoment_flip (ps : List (Contrib K)) (k : ℕ) :
    weightMoment (ps.map flipT) k = (-1) ^ k * weightMoment ps k :=
  C14.moment_map Contrib.ω _ _ k (fun p => by rw [flipT, neg_pow, mul_left_comm]) ps

omit [DecidableEq K] in
theorem dataMoment_flip (ps : List (Contrib K)) (k : ℕ) :
    dataMoment (ps.map flipT) k = (-1) ^ k * dataMoment ps k :=
  C14.moment_map Contrib.v _ _ k (fun p => by rw [flipT, neg_pow, mul_left_comm]) ps

/-- top–bottom mirror, one term: unchanged -/
theorem mirror_tb_1 (ps : List (Contrib K)) : solveBin 1 (ps.map flipT) = solveBin 1 ps := by
  simp only [solveBin, weightMoment_flip, dataMoment_flip, pow_zero, one_mul]

/-- the 2-term solve under the sign pattern of the mirror -/
theorem solve2_flip (p0 p1 p2 b0 b1 : K) :
    solve2 p0 (-p1) p2 b0 (-b1) = ((solve2 p0 p1 p2 b0 b1).1, -(solve2 p0 p1 p2 b0 b1).2) := by
  simpa only [pow_succ, pow_zero, one_mul, mul_neg, mul_one, neg_neg, neg_mul, div_one, div_neg]
    using C14.solve2_equivariant 1 (-1) 1 one_ne_zero (neg_ne_zero.mpr one_ne_zero) p0 p1 p2 b0 b1

/-- top–bottom mirror, two terms (cos⁰, cos¹): the odd term changes sign -/
theorem mirror_tb_2 (ps : List (Contrib K)) :
    solveBin 2 (ps.map flipT) = [(solve2 (weightMoment ps 0) (weightMoment ps 1) (weightMoment ps 2) (dataMoment ps 0) (dataMoment ps 1)).1,
                                  -(solve2 (weightMoment ps 0) (weightMoment ps 1) (weightMoment ps 2) (dataMoment ps 0) (dataMoment ps 1)).2] := by
  simp only [solveBin, weightMoment_flip, dataMoment_flip, pow_zero, pow_one, neg_one_sq, one_mul, neg_one_mul, solve2_flip]

/-- the 3-term solve under the sign pattern of the mirror: (a₀, a₁, a₂) ↦ (a₀, −a₁, a₂) -/
theorem solve3_flip (p0 p1 p2 p3 p4 b0 b1 b2 : K) :
    solve3 p0 (-p1) p2 (-p3) p4 b0 (-b1) b2
      = ((solve3 p0 p1 p2 p3 p4 b0 b1 b2).1, -(solve3 p0 p1 p2 p3 p4 b0 b1 b2).2.1, (solve3 p0 p1 p2 p3 p4 b0 b1 b2).2.2) := by
  simpa only [pow_succ, pow_zero, one_mul, mul_neg, mul_one, neg_neg, neg_mul, div_one, div_neg]
    using C14.solve3_equivariant 1 (-1) 1 one_ne_zero (neg_ne_zero.mpr one_ne_zero) p0 p1 p2 p3 p4 b0 b1 b2

/-- top–bottom mirror, three terms (cos⁰, cos¹, cos²): only the odd term changes sign -/
theorem mirror_tb_3 (ps : List (Contrib K)) :
    solveBin 3 (ps.map flipT) =
      (let s := solve3 (weightMoment ps 0) (weightMoment ps 1) (weightMoment ps 2) (weightMoment ps 3) (weightMoment ps 4)
                  (dataMoment ps 0) (dataMoment ps 1) (dataMoment ps 2)
       [s.1, -s.2.1, s.2.2]) := by
  simp only [solveBin, weightMoment_flip, dataMoment_flip, pow_succ, pow_zero, one_mul, mul_neg, mul_one, neg_neg, neg_mul,
    solve3_flip]

/-- non-vacuity of the sign pattern for two terms: a bin holding the pixel pair
    (cos θ = ±1/2, values 3 and 1) has a₁ = 2, its mirror image −2 -/
example : solveBin 2 ([⟨1, 1 / 2, 3⟩, ⟨1, -1 / 2, 1⟩] : List (Contrib ℚ)) = [2, 2] ∧
    solveBin 2 (([⟨1, 1 / 2, 3⟩, ⟨1, -1 / 2, 1⟩] : List (Contrib ℚ)).map flipT) = [2, -2] := by
  decide +kernel

/-- scaling all moments by `l ≠ 0` leaves the 2-term solve unchanged -/
theorem solve2_scale (l : K) (hl : l ≠ 0) (p0 p1 p2 b0 b1 : K) :
    solve2 (l * p0) (l * p1) (l * p2) (l * b0) (l * b1) = solve2 p0 p1 p2 b0 b1 := by
  simpa [hl] using C14.solve2_equivariant l 1 l hl one_ne_zero p0 p1 p2 b0 b1

/-- … and the 3-term solve -/
theorem solve3_scale (l : K) (hl : l ≠ 0) (p0 p1 p2 p3 p4 b0 b1 b2 : K) :
    solve3 (l * p0) (l * p1) (l * p2) (l * p3) (l * p4) (l * b0) (l * b1) (l * b2) = solve3 p0 p1 p2 p3 p4 b0 b1 b2 := by
  simpa [hl] using C14.solve3_equivariant l 1 l hl one_ne_zero p0 p1 p2 p3 p4 b0 b1 b2

/-- multiplying all weights by a non-zero constant does not change the result, three angular terms -/
theorem weight_scaling_3 (l : K) (hl : l ≠ 0) (ps : List (Contrib K)) :
    solveBin 3 (ps.map (scaleContrib l)) = solveBin 3 ps := by
  simp only [solveBin, weightMoment_scale, dataMoment_scale, solve3_scale l hl]

/-! ### homogeneity in the image -/

theorem solve2_rhs_smul (p0 p1 p2 b0 b1 a : K) :
    solve2 p0 p1 p2 (a * b0) (a * b1) = (a * (solve2 p0 p1 p2 b0 b1).1, a * (solve2 p0 p1 p2 b0 b1).2) := by
  simpa using C14.solve2_equivariant 1 1 a one_ne_zero one_ne_zero p0 p1 p2 b0 b1

theorem solve3_rhs_smul (p0 p1 p2 p3 p4 b0 b1 b2 a : K) :
    solve3 p0 p1 p2 p3 p4 (a * b0) (a * b1) (a * b2)
      = (a * (solve3 p0 p1 p2 p3 p4 b0 b1 b2).1, a * (solve3 p0 p1 p2 p3 p4 b0 b1 b2).2.1,
         a * (solve3 p0 p1 p2 p3 p4 b0 b1 b2).2.2) := by
  simpa using C14.solve3_equivariant 1 1 a one_ne_zero one_ne_zero p0 p1 p2 p3 p4 b0 b1 b2

/-- every pixel value multiplied by `a` (geometry and weights unchanged) -/
def scaleV (a : K) (p : Contrib K) : Contrib K := ⟨p.ω, p.t, a * p.v⟩

omit [DecidableEq K] in
theorem weightMoment_scaleV (a : K) (ps : List (Contrib K)) (k : ℕ) : weightMoment (ps.map (scaleV a)) k = weightMoment ps k :=
  C14.weightMoment_indep_of_data ps (a * ·) k

omit [DecidableEq K] in
theorem dataMoment_scaleV (a : K) (ps : List (Contrib K)) (k : ℕ) : dataMoment (ps.map (scaleV a)) k = a * dataMoment ps k :=
  C14.moment_map Contrib.v _ a k (fun _ => mul_assoc _ _ _) ps

/-- **distributions are homogeneous in the image**: multiplying every pixel value by `a` multiplies every coefficient of every order
    by `a` (so ratios such as β are unchanged), for 1, 2 and 3 angular terms, including the degenerate branches -/
theorem solveBin_image_smul (N : ℕ) (a : K) (ps : List (Contrib K)) :
    solveBin N (ps.map (scaleV a)) = (solveBin N ps).map (a * ·) := by
  match N with
  | 0 => rfl
  | 1 =>
    simp only [solveBin, weightMoment_scaleV, dataMoment_scaleV, List.map_cons, List.map_nil, mul_ite, mul_zero,
      mul_left_comm a]
  | 2 =>
    simp only [solveBin, weightMoment_scaleV, dataMoment_scaleV, solve2_rhs_smul, List.map_cons, List.map_nil]
  | 3 =>
    simp only [solveBin, weightMoment_scaleV, dataMoment_scaleV, solve3_rhs_smul, List.map_cons, List.map_nil]
  | n + 4 => rfl

end PyAbel.C15
