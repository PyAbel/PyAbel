/-
C11 — shipped analytical pairs are true Abel pairs (closed-form objects).

Proved: StepAnalytical (any bounds, height) and GaussianAnalytical (any σ > 0, A₀): the `abel` attribute is the
Abel integral of the `func` attribute, as functions, at every distance.  The TransformPair profiles are proved in
`C11Profiles` (the polynomial ones) and `C11Profile6`; the sample images are tied to their integrals by quadrature in the check.
-/
import PyAbel.Props.C09Basex

open MeasureTheory Set Real

namespace PyAbel.C11
open PyAbel

theorem abel_smul (A : ℝ) (f : ℝ → ℝ) (x : ℝ) : Abel (fun r => A * f r) x = A * Abel f x :=
  abel_const_mul A f x

/-- **StepAnalytical**: `func` = A₀ on [r₁, r₂), `abel` = 2A₀(√(r₂²−x²) − √(r₁²−x²)) with the square roots read as 0
    where the argument is negative — exactly the three-case formula in `abel_step_analytical` -/
theorem step_pair (A0 r1 r2 x : ℝ) (h1 : 0 ≤ r1) (h12 : r1 ≤ r2) :
    Abel (fun r => A0 * indicator (Ico r1 r2) 1 r) x = A0 * (2 * (hc (r2 ^ 2 - x ^ 2) - hc (r1 ^ 2 - x ^ 2))) := by
  rw [abel_smul, abel_shell r1 r2 x h1 h12]

/-- the three cases of the coded formula -/
theorem step_cases (r1 r2 x : ℝ) (hx : 0 ≤ x) (h1 : 0 ≤ r1) (h12 : r1 ≤ r2) :
    2 * (hc (r2 ^ 2 - x ^ 2) - hc (r1 ^ 2 - x ^ 2)) =
      if x < r1 then 2 * Real.sqrt (r2 ^ 2 - x ^ 2) - 2 * Real.sqrt (r1 ^ 2 - x ^ 2)
      else if x < r2 then 2 * Real.sqrt (r2 ^ 2 - x ^ 2)
      else 0 := by
  split_ifs with ha hb
  · rw [hc_eq_sqrt, hc_eq_sqrt, mul_sub]
  · rw [hc_sq_sub_of_le h1 (not_lt.mp ha), hc_eq_sqrt, sub_zero]
  · rw [hc_sq_sub_of_le h1 (not_lt.mp ha), hc_sq_sub_of_le (h1.trans h12) (not_lt.mp hb), sub_zero, mul_zero]

/-- **GaussianAnalytical**: Abel(A₀ e^{−r²/σ²})(x) = σ √π A₀ e^{−x²/σ²} -/
theorem gaussian_pair (A0 σ x : ℝ) (hσ : 0 < σ) :
    Abel (fun r => A0 * Real.exp (-(r ^ 2) / σ ^ 2)) x = σ * Real.sqrt Real.pi * A0 * Real.exp (-(x ^ 2) / σ ^ 2) := by
  -- the Gaussian is BASEX's first basis function
  have h := C09.basex_M_zero_eq_abel σ x hσ
  simp only [div_pow, ← neg_div] at h
  rw [abel_smul, ← h, sub_eq_add_neg, Real.exp_add, C09.exp_lnhalf, Nat.cast_zero, zero_add, Real.Gamma_one_half_eq, ← neg_div]
  ring

end PyAbel.C11
