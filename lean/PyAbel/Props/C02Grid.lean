/-
C02 / C04 — the uniformity test of explicit radial grids (`abel.direct.is_uniform_sampling`, Model/Grid.lean) does not depend on the
unit of length: the grid `u · r` (u > 0: pixels, micrometres, metres) is judged exactly as `r` is.  (Before repair F71 the second
differences were compared with an absolute 1e-13, and a non-uniform grid given in a small enough unit was integrated as a uniform one.)
Also: an exactly uniform grid passes for every tolerance ≥ 0, and a grid with one second difference above the allowance fails.
-/
import PyAbel.Model.Grid
import Mathlib.Algebra.Order.Field.Basic
import Mathlib.Algebra.Order.AbsoluteValue.Basic
import Mathlib.Algebra.Order.Ring.Abs
import Mathlib.Algebra.Order.Field.Rat
import Mathlib.Tactic.Ring
import Mathlib.Tactic.Linarith
import Mathlib.Tactic.NormNum

set_option linter.unusedSectionVars false

namespace PyAbel.C02Grid
open PyAbel PyAbel.Grid

variable {K : Type} [Field K] [LinearOrder K] [IsStrictOrderedRing K]

instance : HasAbs K := ⟨fun x => |x|⟩

theorem maxAbs_nonneg (r : ℕ → K) (n : ℕ) : 0 ≤ maxAbs r n := by
  induction n with
  | zero => exact le_rfl
  | succ k ih => exact le_max_of_le_left ih

theorem maxAbs_smul (u : K) (hu : 0 ≤ u) (r : ℕ → K) (n : ℕ) :
    maxAbs (fun i => u * r i) n = u * maxAbs r n := by
  induction n with
  | zero => simp [maxAbs]
  | succ k ih =>
    simp only [maxAbs, ih]
    show max (u * maxAbs r k) |u * r k| = u * max (maxAbs r k) |r k|
    rw [abs_mul, abs_of_nonneg hu, mul_max_of_nonneg _ _ hu]

theorem ddr_smul (u : K) (r : ℕ → K) (i : ℕ) : ddr (fun j => u * r j) i = u * ddr r i := by
  simp only [ddr]; ring

theorem allSmall_iff (tol M : K) (r : ℕ → K) (m : ℕ) :
    allSmall tol M r m = true ↔ ∀ k, k < m → |ddr r k| ≤ tol * M := by
  induction m with
  | zero => exact iff_of_true rfl fun _ h => absurd h (Nat.not_lt_zero _)
  | succ m ih => rw [allSmall, Bool.and_eq_true, ih, decide_eq_true_eq, Nat.forall_lt_succ_right]; rfl

theorem allSmall_smul (tol M u : K) (hu : 0 < u) (r : ℕ → K) (m : ℕ) :
    allSmall tol (u * M) (fun i => u * r i) m = allSmall tol M r m := by
  rw [Bool.eq_iff_iff, allSmall_iff, allSmall_iff]
  refine forall₂_congr fun k _ => ?_
  rw [ddr_smul, abs_mul, abs_of_pos hu, mul_left_comm, mul_le_mul_iff_right₀ hu]

/-- **the uniformity test is independent of the unit of length** -/
theorem isUniform_unit (tol u : K) (hu : 0 < u) (n : ℕ) (r : ℕ → K) :
    isUniform tol n (fun i => u * r i) = isUniform tol n r := by
  unfold isUniform
  rw [maxAbs_smul u hu.le, allSmall_smul tol _ u hu]

/-- an exactly uniform grid `r₀ + i·d` passes, whatever the tolerance ≥ 0 -/
theorem isUniform_arith (tol r0 d : K) (ht : 0 ≤ tol) (n : ℕ) : isUniform tol n (fun i => r0 + (i : K) * d) = true := by
  refine (allSmall_iff _ _ _ _).2 fun k _ => ?_
  have : ddr (fun i => r0 + (i : K) * d) k = 0 := by simp only [ddr]; push_cast; ring
  rw [this, abs_zero]
  exact mul_nonneg ht (maxAbs_nonneg _ n)

theorem allSmall_false (tol M : K) (r : ℕ → K) (k : ℕ) (h : tol * M < |ddr r k|) :
    ∀ m, k < m → allSmall tol M r m = false :=
  fun m hk => Bool.eq_false_iff.2 fun hm => h.not_ge ((allSmall_iff tol M r m).1 hm k hk)

/-- a grid with a second difference above the allowance fails -/
theorem isUniform_false_of_large (tol : K) (n : ℕ) (r : ℕ → K) (k : ℕ) (hk : k < n - 2)
    (h : tol * maxAbs r n < |ddr r k|) : isUniform tol n r = false :=
  allSmall_false tol _ r k h _ hk

/-! non-vacuity: the quadratic grid 0, 1, 4, 9 is non-uniform, in every unit; 0, 2, 4, 6 is uniform -/
example : isUniform (1 / 10 : ℚ) 4 (fun i => (i : ℚ) * i) = false :=
  isUniform_false_of_large _ _ _ 0 (by decide) (by decide +kernel)
example : isUniform (1 / 10 : ℚ) 4 (fun i => (1 / 1000000 : ℚ) * ((i : ℚ) * i)) = false := by
  rw [isUniform_unit _ _ (by decide +kernel)]
  exact isUniform_false_of_large _ _ _ 0 (by decide) (by decide +kernel)
example : isUniform (0 : ℚ) 4 (fun i => 0 + (i : ℚ) * 2) = true := isUniform_arith 0 0 2 le_rfl 4

end PyAbel.C02Grid
