/-
C06 — Quadrant split/join is lossless and symmetrisation is a projector.

Model: PyAbel/Model/Symmetry.lean (get_image_quadrants / put_image_quadrants,
reorient=True, symmetrize_method='average').  `symmetrise im ax m` is
`put_image_quadrants(get_image_quadrants(im, symmetry_axis=ax, use_quadrants=m), im.shape, ax)`,
i.e. what `abel.Transform` does around the per-quadrant transforms.

All statements are for every shape (rows, cols ≥ 0, all four
parities), every pixel array and — where masks appear — every admissible mask.
-/
import PyAbel.Props.C05
import Mathlib.Data.Nat.Cast.Field
import Mathlib.Tactic.IntervalCases

set_option linter.unusedSectionVars false

namespace PyAbel.C06
open PyAbel

/-! ### 0. index arithmetic: the mirror image `c − 1 − j` of an index `j < c`, and the image columns behind a quadrant-local column -/

theorem mirror_mirror {c j : Nat} (hj : j < c) : c - 1 - (c - 1 - j) = j := Nat.sub_sub_self (Nat.le_sub_one_of_lt hj)

theorem mirror_le {c j : Nat} (h : c / 2 ≤ j) : c - 1 - j ≤ j := by omega

theorem le_mirror {c j : Nat} (h : j < c / 2) : j ≤ c - 1 - j := by omega

/-- the columns of the image that the right-hand and the left-hand quadrants of `rawQuadrants` read at the local column of `j`,
    for `j` from the centre column rightward … -/
theorem col_right {c j : Nat} (h : c / 2 ≤ j) :
    c - halfUp c + (j - c / 2) = j ∧ halfUp c - 1 - (j - c / 2) = c - 1 - j :=
  ⟨by have := C05.half_add_halfUp c; omega, C05.halfUp_mirror (not_lt.2 h)⟩

/-- … and for `j` left of it -/
theorem col_left {c j : Nat} (h : ¬c / 2 ≤ j) :
    c - halfUp c + (halfUp c - 1 - j) = c - 1 - j ∧ halfUp c - 1 - (halfUp c - 1 - j) = j := by
  have := C05.half_add_halfUp c; omega

/-! ### 1. split / join is lossless (any pixel type, every shape, all four parities) -/

theorem put_get_raw {α : Type} (im : Img α) :
    putQuadrants (rawQuadrants im) im.rows im.cols .none ≈ᵢ im := by
  have hq : C05.QuadShape (rawQuadrants im) im.rows im.cols := ⟨rfl, rfl, rfl, rfl, rfl, rfl, rfl, rfl⟩
  obtain ⟨hr, hc⟩ := C05.put_shape _ _ _ .none hq
  refine ⟨hr, hc, fun i j hi hj => ?_⟩
  rw [hr] at hi; rw [hc] at hj
  rw [C05.put_pixel _ _ _ _ hq i j hi hj]
  by_cases h1 : i < im.rows / 2 <;> by_cases h2 : im.cols / 2 ≤ j <;>
    simp only [h1, h2, if_true, if_false, decide_true, decide_false, pickQuadrant, rawQuadrants, SymAxis.has0, SymAxis.has1,
      Bool.false_eq_true, mirror_mirror hi, col_right, col_left, not_false_eq_true]

variable {K : Type} [Field K] [CharZero K]

/-! ### 2. shape, and the pixel in quadrant-local coordinates -/

theorem shape (im : Img K) (ax : SymAxis) (m : Mask) :
    (symmetrise im ax m).rows = im.rows ∧ (symmetrise im ax m).cols = im.cols :=
  C05.put_shape _ _ _ _ (C05.get_shape im ax m)

/-- quadrant-local row of image row `i`: counted from the top edge above the centre row, from the bottom edge from it downward -/
def fromEdge (n i : Nat) : Nat := if i < n / 2 then i else n - 1 - i

/-- quadrant-local column of image column `j`: its distance from the centre column (left of it: from the column before it) -/
def fromCentre (c j : Nat) : Nat := if c / 2 ≤ j then j - c / 2 else halfUp c - 1 - j

theorem symmetrise_px (im : Img K) (ax : SymAxis) (m : Mask) (i j : Nat) (hi : i < im.rows) (hj : j < im.cols) :
    (symmetrise im ax m).px i j =
      (pickQuadrant ax (getQuadrants im ax m) (decide (i < im.rows / 2)) (decide (im.cols / 2 ≤ j))).px
        (fromEdge im.rows i) (fromCentre im.cols j) :=
  C05.put_pixel _ _ _ _ (C05.get_shape im ax m) i j hi hj

/-- With all quadrants enabled and no symmetry, `put ∘ get` is the identity on every image. -/
theorem put_get (im : Img K) : symmetrise im .none Mask.all ≈ᵢ im := by
  -- each enabled quadrant is multiplied by `True`, i.e. by 1
  have h : getQuadrants im .none Mask.all = rawQuadrants im := by
    simp only [getQuadrants, Mask.all, Img.map, maskPx, Bool.toNat_true, Nat.cast_one, mul_one]
  rw [symmetrise, h]
  exact put_get_raw im

/-! A pixel and its mirror image have the same quadrant-local coordinates: the local row is the distance from the nearer edge, and
the column that the right-hand quadrants read at the local column is the farther one of `j` and its mirror image. -/

theorem fromEdge_eq_min (n i : Nat) : fromEdge n i = min i (n - 1 - i) := by
  unfold fromEdge; split_ifs with h
  · exact (min_eq_left (le_mirror h)).symm
  · exact (min_eq_right (mirror_le (not_lt.1 h))).symm

theorem fromEdge_mirror {n i : Nat} (hi : i < n) : fromEdge n (n - 1 - i) = fromEdge n i := by
  rw [fromEdge_eq_min, fromEdge_eq_min, mirror_mirror hi, min_comm]

theorem fromCentre_right (c j : Nat) : c - halfUp c + fromCentre c j = max j (c - 1 - j) := by
  unfold fromCentre; split_ifs with h
  · rw [(col_right h).1, max_eq_left (mirror_le h)]
  · rw [(col_left h).1, max_eq_right (le_mirror (not_le.1 h))]

theorem fromCentre_mirror {c j : Nat} (hj : j < c) : fromCentre c (c - 1 - j) = fromCentre c j :=
  Nat.add_left_cancel (n := c - halfUp c) (by rw [fromCentre_right, fromCentre_right, mirror_mirror hj, max_comm])

/-! ### 3. `'average'` is the mean of the input and its mirror image(s) over the enabled quadrants

Each symmetry form is specified completely by a formula on one half (or quarter) of the frame together with the
mirror law(s) of section 4.  `𝟙⟨u⟩` is the entry `u` of `use_quadrants` as 0/1. -/

local notation:max "𝟙⟨" b "⟩" => ((Bool.toNat b : Nat) : K)

/-! These formulas and the mirror laws follow from the pixel on the whole frame: in row `i`, column `j` it is the mean, over the
enabled quadrants, of the input at the rows `up` (upper quadrants), `lo` (lower) and the columns `le` (left-hand quadrants), `ri`
(right-hand) that `rawQuadrants` reads at the quadrant-local position of `(i, j)` — the same four pixels for `(i, j)` and its
mirror images. -/

theorem v_px (im : Img K) (m : Mask) (i j : Nat) (hi : i < im.rows) (hj : j < im.cols) :
    let up := fromEdge im.rows i; let lo := im.rows - 1 - up
    let le := halfUp im.cols - 1 - fromCentre im.cols j; let ri := im.cols - halfUp im.cols + fromCentre im.cols j
    (symmetrise im .v m).px i j =
      if i < im.rows / 2 then (im.px up ri * 𝟙⟨m.u0⟩ + im.px up le * 𝟙⟨m.u1⟩) / ((m.u0.toNat + m.u1.toNat : Nat) : K)
      else (im.px lo le * 𝟙⟨m.u2⟩ + im.px lo ri * 𝟙⟨m.u3⟩) / ((m.u2.toNat + m.u3.toNat : Nat) : K) := by
  rw [symmetrise_px im .v m i j hi hj]
  by_cases h : i < im.rows / 2 <;> simp only [h, if_true, if_false, decide_true, decide_false] <;>
    cases decide (im.cols / 2 ≤ j) <;> rfl

theorem h_px (im : Img K) (m : Mask) (i j : Nat) (hi : i < im.rows) (hj : j < im.cols) :
    let up := fromEdge im.rows i; let lo := im.rows - 1 - up
    let le := halfUp im.cols - 1 - fromCentre im.cols j; let ri := im.cols - halfUp im.cols + fromCentre im.cols j
    (symmetrise im .h m).px i j =
      if im.cols / 2 ≤ j then (im.px up ri * 𝟙⟨m.u0⟩ + im.px lo ri * 𝟙⟨m.u3⟩) / ((m.u0.toNat + m.u3.toNat : Nat) : K)
      else (im.px up le * 𝟙⟨m.u1⟩ + im.px lo le * 𝟙⟨m.u2⟩) / ((m.u1.toNat + m.u2.toNat : Nat) : K) := by
  rw [symmetrise_px im .h m i j hi hj]
  by_cases h : im.cols / 2 ≤ j <;> simp only [h, if_true, if_false, decide_true, decide_false] <;>
    cases decide (i < im.rows / 2) <;> rfl

theorem both_px (im : Img K) (m : Mask) (i j : Nat) (hi : i < im.rows) (hj : j < im.cols) :
    let up := fromEdge im.rows i; let lo := im.rows - 1 - up
    let le := halfUp im.cols - 1 - fromCentre im.cols j; let ri := im.cols - halfUp im.cols + fromCentre im.cols j
    (symmetrise im .both m).px i j =
      (im.px up ri * 𝟙⟨m.u0⟩ + im.px up le * 𝟙⟨m.u1⟩ + im.px lo le * 𝟙⟨m.u2⟩ + im.px lo ri * 𝟙⟨m.u3⟩) / ((m.count : Nat) : K) := by
  rw [symmetrise_px im .both m i j hi hj]
  cases decide (i < im.rows / 2) <;> cases decide (im.cols / 2 ≤ j) <;> rfl

/-- `symmetry_axis = 0`, right half: mean over the enabled ones of the pixel and its left–right
    mirror image, with (Q0, Q1) deciding above the centre row and (Q3, Q2) from it downward. -/
theorem v_mean (im : Img K) (m : Mask) (i j : Nat) (hi : i < im.rows) (hj : j < im.cols)
    (hr : im.cols / 2 ≤ j) :
    (symmetrise im .v m).px i j =
      if i < im.rows / 2 then
        (im.px i j * 𝟙⟨m.u0⟩ + im.px i (im.cols - 1 - j) * 𝟙⟨m.u1⟩) / ((m.u0.toNat + m.u1.toNat : Nat) : K)
      else
        (im.px i (im.cols - 1 - j) * 𝟙⟨m.u2⟩ + im.px i j * 𝟙⟨m.u3⟩) / ((m.u2.toNat + m.u3.toNat : Nat) : K) := by
  rw [v_px im m i j hi hj, fromCentre, if_pos hr, (col_right hr).1, (col_right hr).2, fromEdge]
  split_ifs
  · rfl
  · rw [mirror_mirror hi]

/-- `symmetry_axis = 1`, lower half (centre row included): mean over the enabled ones of the pixel
    and its top–bottom mirror image, with (Q3, Q0) deciding from the centre column rightward and
    (Q2, Q1) left of it. -/
theorem h_mean (im : Img K) (m : Mask) (i j : Nat) (hi : i < im.rows) (hj : j < im.cols)
    (hb : im.rows / 2 ≤ i) :
    (symmetrise im .h m).px i j =
      if im.cols / 2 ≤ j then
        (im.px (im.rows - 1 - i) j * 𝟙⟨m.u0⟩ + im.px i j * 𝟙⟨m.u3⟩) / ((m.u0.toNat + m.u3.toNat : Nat) : K)
      else
        (im.px (im.rows - 1 - i) j * 𝟙⟨m.u1⟩ + im.px i j * 𝟙⟨m.u2⟩) / ((m.u1.toNat + m.u2.toNat : Nat) : K) := by
  rw [h_px im m i j hi hj, fromEdge, if_neg (not_lt.2 hb), mirror_mirror hi, fromCentre]
  split_ifs with h
  · rw [(col_right h).1]
  · rw [(col_left h).2]

/-- `symmetry_axis = (0, 1)`, lower-right quarter (centre row and column included): mean of the
    four mirror images over the enabled quadrants. -/
theorem both_mean (im : Img K) (m : Mask) (i j : Nat) (hi : i < im.rows) (hj : j < im.cols)
    (hb : im.rows / 2 ≤ i) (hr : im.cols / 2 ≤ j) :
    (symmetrise im .both m).px i j =
      (im.px (im.rows - 1 - i) j * 𝟙⟨m.u0⟩ + im.px (im.rows - 1 - i) (im.cols - 1 - j) * 𝟙⟨m.u1⟩
        + im.px i (im.cols - 1 - j) * 𝟙⟨m.u2⟩ + im.px i j * 𝟙⟨m.u3⟩) / ((m.count : Nat) : K) := by
  rw [both_px im m i j hi hj, fromEdge, if_neg (not_lt.2 hb), mirror_mirror hi, fromCentre, if_pos hr, (col_right hr).1,
    (col_right hr).2]

/-! ### 4. the result is mirror-symmetric about the image centre in the requested sense
(every mask, admissible or not; no arithmetic on pixels needed) -/

theorem v_mirror (im : Img K) (m : Mask) (i j : Nat) (hi : i < im.rows) (hj : j < im.cols) :
    (symmetrise im .v m).px i j = (symmetrise im .v m).px i (im.cols - 1 - j) := by
  rw [v_px im m i j hi hj, v_px im m i (im.cols - 1 - j) hi (Nat.sub_one_sub_lt hj), fromCentre_mirror hj]

theorem h_mirror (im : Img K) (m : Mask) (i j : Nat) (hi : i < im.rows) (hj : j < im.cols) :
    (symmetrise im .h m).px i j = (symmetrise im .h m).px (im.rows - 1 - i) j := by
  rw [h_px im m i j hi hj, h_px im m (im.rows - 1 - i) j (Nat.sub_one_sub_lt hi) hj, fromEdge_mirror hi]

theorem both_mirror_v (im : Img K) (m : Mask) (i j : Nat) (hi : i < im.rows) (hj : j < im.cols) :
    (symmetrise im .both m).px i j = (symmetrise im .both m).px i (im.cols - 1 - j) := by
  rw [both_px im m i j hi hj, both_px im m i (im.cols - 1 - j) hi (Nat.sub_one_sub_lt hj), fromCentre_mirror hj]

theorem both_mirror_h (im : Img K) (m : Mask) (i j : Nat) (hi : i < im.rows) (hj : j < im.cols) :
    (symmetrise im .both m).px i j = (symmetrise im .both m).px (im.rows - 1 - i) j := by
  rw [both_px im m i j hi hj, both_px im m (im.rows - 1 - i) j (Nat.sub_one_sub_lt hi) hj, fromEdge_mirror hi]

/-! ### 5. requests that would leave a quadrant undefined are rejected — and only those

`defined ax m` says: every output quadrant has at least one enabled source quadrant. -/

def defined (ax : SymAxis) (m : Mask) : Bool :=
  match ax with
  | .none => m.u0 && m.u1 && m.u2 && m.u3
  | .v    => (m.u0 || m.u1) && (m.u2 || m.u3)
  | .h    => (m.u1 || m.u2) && (m.u0 || m.u3)
  | .both => m.u0 || m.u1 || m.u2 || m.u3

theorem rejected_iff_undefined (ax : SymAxis) (m : Mask) : admissible ax m = defined ax m := by
  obtain ⟨u0, u1, u2, u3⟩ := m
  revert u0 u1 u2 u3
  cases ax <;> decide

/-- an admissible mask never divides by zero -/
theorem denominators_nonzero (m : Mask) :
    (admissible .v m = true → (m.u0.toNat + m.u1.toNat ≠ 0 ∧ m.u2.toNat + m.u3.toNat ≠ 0)) ∧
    (admissible .h m = true → (m.u1.toNat + m.u2.toNat ≠ 0 ∧ m.u0.toNat + m.u3.toNat ≠ 0)) ∧
    (admissible .both m = true → m.count ≠ 0) := by
  obtain ⟨u0, u1, u2, u3⟩ := m
  revert u0 u1 u2 u3
  decide

/-! ### 6. an already symmetric image is unchanged; applying twice = applying once -/

theorem eq_of_mirror_of_half {β : Type} {f g : Nat → β} {c : Nat} (hf : ∀ j, j < c → f j = f (c - 1 - j))
    (hg : ∀ j, j < c → g j = g (c - 1 - j)) (h : ∀ j, j < c → c / 2 ≤ j → f j = g j) (j : Nat) (hj : j < c) : f j = g j := by
  by_cases hr : c / 2 ≤ j
  · exact h j hj hr
  · rw [hf j hj, hg j hj]
    exact h _ (Nat.sub_one_sub_lt hj) (by omega)

theorem mean_self (x : K) {a b : Nat} (h : a + b ≠ 0) : (x * (a : K) + x * (b : K)) / ((a + b : Nat) : K) = x := by
  rw [← mul_add, ← Nat.cast_add]
  exact mul_div_cancel_right₀ _ (Nat.cast_ne_zero.mpr h)

theorem equiv_of_px {im : Img K} {ax : SymAxis} {m : Mask}
    (h : ∀ i j, i < im.rows → j < im.cols → (symmetrise im ax m).px i j = im.px i j) : symmetrise im ax m ≈ᵢ im :=
  let ⟨sr, sc⟩ := shape im ax m
  ⟨sr, sc, fun i j hi hj => h i j (sr ▸ hi) (sc ▸ hj)⟩

theorem v_fixed (im : Img K) (m : Mask) (hadm : admissible .v m = true)
    (hsym : ∀ i j, i < im.rows → j < im.cols → im.px i j = im.px i (im.cols - 1 - j)) :
    symmetrise im .v m ≈ᵢ im := by
  obtain ⟨d01, d23⟩ := (denominators_nonzero m).1 hadm
  refine equiv_of_px fun i j hi hj => ?_
  refine eq_of_mirror_of_half (fun j hj => v_mirror im m i j hi hj) (fun j hj => hsym i j hi hj) (fun j hj hr => ?_) j hj
  rw [v_mean im m i j hi hj hr, ← hsym i j hi hj, mean_self _ d01, mean_self _ d23, ite_self]

theorem h_fixed (im : Img K) (m : Mask) (hadm : admissible .h m = true)
    (hsym : ∀ i j, i < im.rows → j < im.cols → im.px i j = im.px (im.rows - 1 - i) j) :
    symmetrise im .h m ≈ᵢ im := by
  obtain ⟨d12, d03⟩ := (denominators_nonzero m).2.1 hadm
  refine equiv_of_px fun i j hi hj => ?_
  refine eq_of_mirror_of_half (fun i hi => h_mirror im m i j hi hj) (fun i hi => hsym i j hi hj) (fun i hi hb => ?_) i hi
  rw [h_mean im m i j hi hj hb, ← hsym i j hi hj, mean_self _ d03, mean_self _ d12, ite_self]

theorem both_fixed (im : Img K) (m : Mask) (hadm : admissible .both m = true)
    (hv : ∀ i j, i < im.rows → j < im.cols → im.px i j = im.px i (im.cols - 1 - j))
    (hh : ∀ i j, i < im.rows → j < im.cols → im.px i j = im.px (im.rows - 1 - i) j) :
    symmetrise im .both m ≈ᵢ im := by
  have dall := (denominators_nonzero m).2.2 hadm
  refine equiv_of_px fun i j hi hj => ?_
  refine eq_of_mirror_of_half (fun i hi => both_mirror_h im m i j hi hj) (fun i hi => hh i j hi hj) (fun i hi hb => ?_) i hi
  refine eq_of_mirror_of_half (fun j hj => both_mirror_v im m i j hi hj) (fun j hj => hv i j hi hj) (fun j hj hr => ?_) j hj
  rw [both_mean im m i j hi hj hb hr, ← hv i j hi hj, ← hh i j hi hj, ← hv (im.rows - 1 - i) j (Nat.sub_one_sub_lt hi) hj, ← hh i j hi hj]
  rw [← mul_add, ← Nat.cast_add, ← mul_add, ← Nat.cast_add]
  exact mean_self _ dall

/-- Symmetrisation is idempotent (for each symmetry form and each admissible mask). -/
theorem idempotent (im : Img K) (ax : SymAxis) (m : Mask) (hadm : admissible ax m = true)
    (hnone : ax = .none → m = Mask.all) :
    symmetrise (symmetrise im ax m) ax m ≈ᵢ symmetrise im ax m := by
  obtain ⟨hr, hc⟩ := shape im ax m
  cases ax with
  | none =>
    rw [hnone rfl]
    exact put_get _
  | v =>
    refine v_fixed _ m hadm ?_
    rw [hr, hc]
    exact v_mirror im m
  | h =>
    refine h_fixed _ m hadm ?_
    rw [hr, hc]
    exact h_mirror im m
  | both =>
    refine both_fixed _ m hadm ?_ ?_ <;> rw [hr, hc]
    · exact both_mirror_v im m
    · exact both_mirror_h im m

/-! ### 7. non-vacuity: concrete instances of the hypotheses -/

example : admissible .v ⟨true, false, false, true⟩ = true ∧ admissible .both ⟨false, false, true, false⟩ = true
    ∧ admissible .none ⟨true, true, true, false⟩ = false := by decide

/-- a concrete non-constant 3×4 image that is left–right symmetric (hypothesis of `v_fixed`) -/
example : let im : Img ℚ := ⟨3, 4, fun i j => (i : ℚ) + (if j = 0 ∨ j = 3 then 5 else 7)⟩
    ∀ i j, i < im.rows → j < im.cols → im.px i j = im.px i (im.cols - 1 - j) := by
  intro im i j hi hj
  simp only [im] at hi hj ⊢
  interval_cases j <;> simp

end PyAbel.C06
