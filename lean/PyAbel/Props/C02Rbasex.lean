/-
C02 — rBasex forward transform is exact on its own function space: for every angular order `n`, the radial matrix applied to
coefficients `c_R` gives exactly the line-of-sight projection of the distribution  Σ_R c_R b_R(ρ) cosⁿθ  (piecewise linear in the
radius), at every integer distance `r ≥ 1` and every `Rmax`.  With `rbasexP_eq_abel` (each matrix entry is its defining integral) this
is linearity of the Abel integral.
-/
import PyAbel.Props.C03Bases

open MeasureTheory Set

namespace PyAbel.C02
open PyAbel PyAbel.C09 PyAbel.C03

theorem losInt_cont_frac {x : ℝ} (hx : 0 < x) {φ : ℝ → ℝ} (hφ : Continuous φ) (B : ℝ) (hsupp : ∀ ρ, B ≤ ρ → φ ρ = 0) (n : ℕ) :
    LosInt (fun ρ => φ ρ * (x / ρ) ^ n) x :=
  losInt_mul_fr_pow hx hφ hsupp n

theorem sumRange_mul_right (N : ℕ) (f : ℕ → ℝ) (a : ℝ) : sumRange N f * a = sumRange N (fun k => f k * a) :=
  PyAbel.sumRange_mul_right N f a

/-- **rBasex forward projection is exact for radially piecewise-linear distributions**, every angular order -/
theorem rbasex_forward_exact (n N : ℕ) (c : ℕ → ℝ) (r : ℕ) (hr : 1 ≤ r) :
    sumRange N (fun R => c R * (RbxBasis.P n R r : ℝ))
      = Abel (fun ρ => (sumRange N fun R => c R * hat R ρ) * ((r : ℝ) / ρ) ^ n) r := by
  simp only [rbasexP_eq_abel n _ r hr, sumRange_mul_right, mul_assoc]
  exact ((abel_sumRange N c (fun R ρ => hat R ρ * ((r : ℝ) / ρ) ^ n) r
    fun R _ => losInt_cont_frac (Nat.cast_pos.mpr hr) (hat_continuous R) _ (hat_zero_of_ge R) n).1).symm

end PyAbel.C02
