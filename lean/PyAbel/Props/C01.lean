/-
C01 — inverse transforms recover the source (the part that is linear algebra).

(i)  exactness on the span: for the methods that build both directions from one basis, the inverse applied to the model's
     forward image of any coefficient vector returns that vector (daun degrees 0–2 by the triangular solve, C03; with the
     degree-0 entries proved to be the Abel integrals of the shells, C09: *the exact projection of any step profile is
     inverted exactly at every pixel, at every size*);
(ii) reduction of the accuracy envelope to the forward consistency error: for any inverse operator T with T·A = 1,
     ‖T P − f‖∞ ≤ ‖T‖∞ · ‖P − A f‖∞.
The envelope itself on smooth inputs (ill-posed inverse problem) is measured by the check against frozen baselines.
-/
import PyAbel.Props.C03
import PyAbel.Props.C09
import PyAbel.Props.C02
import Mathlib.Algebra.Order.BigOperators.Ring.Finset
import Mathlib.Algebra.Order.BigOperators.Group.Finset

namespace PyAbel.C01
open PyAbel Finset

/-! ### exactness on the range, and bounded noise amplification, for every linear inverse -/

/-- **noise amplification is bounded by the row sum**: two data sets that differ by at most `ε` at every pixel are reconstructed to
    within `‖T_i‖₁ · ε` of each other — for every linear inverse operator, with no assumption on `T` -/
theorem inverse_stability (n : ℕ) (T : ℕ → ℕ → ℝ) (P Q : ℕ → ℝ) (ε : ℝ) (h : ∀ k, k < n → |P k - Q k| ≤ ε) (i : ℕ) :
    |∑ k ∈ range n, T i k * P k - ∑ k ∈ range n, T i k * Q k| ≤ (∑ k ∈ range n, |T i k|) * ε := by
  rw [← sum_sub_distrib, sum_mul]
  refine (abs_sum_le_sum_abs _ _).trans (sum_le_sum fun k hk => ?_)
  rw [← mul_sub, abs_mul]
  exact mul_le_mul_of_nonneg_left (h k (mem_range.mp hk)) (abs_nonneg _)

/-- **exactness on the range of the forward model**, any method with `T·A = 1`, any size: data that *are* a forward image are
    inverted to exactly their source (the case ε = 0 of the reduction lemma) -/
theorem inverse_exact_on_range (n : ℕ) (T A : ℕ → ℕ → ℝ)
    (hTA : ∀ i j, i < n → j < n → ∑ k ∈ range n, T i k * A k j = if i = j then 1 else 0)
    (f : ℕ → ℝ) (i : ℕ) (hi : i < n) :
    ∑ k ∈ range n, T i k * (∑ j ∈ range n, A k j * f j) = f i := by
  simp only [← sumRange_eq_sum] at hTA ⊢
  exact C03.matrix_pair_roundtrip n A T hTA f i hi

/-- **reduction lemma**: if `T` inverts the forward matrix `A` exactly, the reconstruction error of any data `P`
    for any source `f` is at most the operator ∞-norm (row sum) times the consistency error `P − A f` -/
theorem inverse_error_le (n : ℕ) (T A : ℕ → ℕ → ℝ)
    (hTA : ∀ i j, i < n → j < n → ∑ k ∈ range n, T i k * A k j = if i = j then 1 else 0)
    (f P : ℕ → ℝ) (ε : ℝ) (hres : ∀ k, k < n → |P k - ∑ j ∈ range n, A k j * f j| ≤ ε)
    (i : ℕ) (hi : i < n) :
    |∑ k ∈ range n, T i k * P k - f i| ≤ (∑ k ∈ range n, |T i k|) * ε := by
  -- `T` applied to the forward image of `f` gives `f` back, so only the residual is amplified
  rw [← inverse_exact_on_range n T A hTA f i hi]
  exact inverse_stability n T P _ ε hres i

/-- the two together: noisy samples of a forward image are reconstructed to within the amplified noise -/
theorem noisy_range_recovered_within (n : ℕ) (T A : ℕ → ℕ → ℝ)
    (hTA : ∀ i j, i < n → j < n → ∑ k ∈ range n, T i k * A k j = if i = j then 1 else 0)
    (f e : ℕ → ℝ) (ε : ℝ) (he : ∀ k, k < n → |e k| ≤ ε) (i : ℕ) (hi : i < n) :
    |∑ k ∈ range n, T i k * ((∑ j ∈ range n, A k j * f j) + e k) - f i| ≤ (∑ k ∈ range n, |T i k|) * ε := by
  refine inverse_error_le n T A hTA f _ ε (fun k hk => ?_) i hi
  simpa using he k hk

/-! ### the degree-0 basis: exact inversion of step profiles, and an envelope for Lipschitz sources -/

/-- **exact inversion of exact projections of step profiles** (daun degree 0 = onion peeling), every size:
    the data `P_i = Σ_j c_j · Abel(rect_j)(i)` — the true projection of the piecewise-constant source Σ c_j rect_j —
    is inverted to exactly `c` -/
theorem step_profile_recovered_exactly (n : ℕ) (c : ℕ → ℝ) (i : ℕ) (hi : i < n) :
    C03.daunInv n (fun j i => (daun0 j i : ℝ)) (fun (i : ℕ) => sumRange n fun j => c j * Abel (C09.rect j) (i : ℝ)) i = c i := by
  simp only [← C09.daun0_eq_abel]
  exact (C03.daun0_roundtrip n c i hi).1

/-- **a-priori envelope for inverting the exact projection of a Lipschitz source** with the degree-0 basis (Daun degree 0,
    onion peeling): whatever exact inverse `T` of the degree-0 forward matrix is used (triangular solve, stored `D = W⁻¹`),
    the reconstruction from the true Abel projection sampled at the pixels differs from the source samples by at most
    `‖T_i‖₁ · L · (n − ½)`, for every size and pixel — the reduction lemma fed with the forward envelope `C02.daun0_forward_error_le`. -/
theorem exact_projection_recovered_within (n : ℕ) (hn : 0 < n) (T : ℕ → ℕ → ℝ)
    (hT : ∀ i j, i < n → j < n → ∑ k ∈ range n, T i k * (daun0 j k : ℝ) = if i = j then 1 else 0)
    (f : ℝ → ℝ) (L : ℝ) (hL : 0 ≤ L) (hcont : Continuous f)
    (hlip : ∀ r s, 0 ≤ r → 0 ≤ s → |f r - f s| ≤ L * |r - s|)
    (hsupp : ∀ r, (n : ℝ) - 1 / 2 ≤ r → f r = 0) (i : ℕ) (hi : i < n) :
    |∑ k ∈ range n, T i k * Abel f k - f i| ≤ (∑ k ∈ range n, |T i k|) * (L * ((n : ℝ) - 1 / 2)) := by
  have hR : (0 : ℝ) ≤ (n : ℝ) - 1 / 2 := (C09.sub_half_pos hn).le
  refine inverse_error_le n T (fun k j => (daun0 j k : ℝ)) hT (fun j => f j) (fun k => Abel f k) _ (fun k _ => ?_) i hi
  have h := C02.daun0_forward_error_le n hn f L hL hcont hlip hsupp k
  rw [sumRange_eq_sum, abs_sub_comm] at h
  simp only [mul_comm (f _)] at h
  -- no chord is longer than the one through the centre
  refine h.trans (mul_le_mul_of_nonneg_left ?_ hL)
  exact (hc_mono (sub_le_sub_left (pow_le_pow_left₀ le_rfl (Nat.cast_nonneg k) 2) _)).trans_eq (hc_sq_sub_zero hR)

/-- non-vacuity of the left-inverse hypothesis: for `n = 1` the forward matrix is `(1)` and `T = (1)` inverts it -/
private theorem daun0_zero_zero : (daun0 0 0 : ℝ) = 1 := by
  rw [C17.daun_default_eq_onion_peeling_matrix, onionW, if_neg (lt_irrefl 0), if_pos rfl, sqrt_real]
  norm_num

example : ∀ i j, i < 1 → j < 1 →
    ∑ k ∈ range 1, (fun _ _ => (1 : ℝ)) i k * (daun0 j k : ℝ) = if i = j then 1 else 0 := by
  intro i j hi hj
  have : i = 0 := by omega
  have : j = 0 := by omega
  subst_vars
  simp [daun0_zero_zero]

end PyAbel.C01
