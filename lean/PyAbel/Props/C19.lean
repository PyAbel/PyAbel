/-
C19 — polar tools honour the angle convention and the integration Jacobians.

Model: PyAbel/Model/Polar.lean at ℝ, with `arctan2(a, b) = arg (b + a·i)`.
-/
import PyAbel.Model.Polar
import PyAbel.Lemmas.RealInst
import PyAbel.Lemmas.Linalg
import Mathlib.Analysis.SpecialFunctions.Complex.Arg
import Mathlib.Algebra.BigOperators.Intervals
import Mathlib.Tactic.Ring
import Mathlib.Tactic.FieldSimp

namespace PyAbel
noncomputable instance : HasAtan2 ℝ := ⟨fun a b => Complex.arg ⟨b, a⟩⟩
noncomputable instance : HasSin ℝ := ⟨Real.sin⟩
noncomputable instance : HasCos ℝ := ⟨Real.cos⟩
noncomputable instance : HasAbs ℝ := ⟨fun x => |x|⟩
end PyAbel

namespace PyAbel.C19
open PyAbel

/-! ### 1. Cartesian ↔ polar is an exact round trip; zero angle is up, positive angles to the right -/

theorem cart2polar_eq (x y : ℝ) : cart2polar x y = (‖(⟨y, x⟩ : ℂ)‖, Complex.arg ⟨y, x⟩) := by
  rw [Complex.norm_def, Complex.normSq_mk, add_comm]; rfl

theorem polar_roundtrip (x y : ℝ) :
    polar2cart (cart2polar x y).1 (cart2polar x y).2 = (x, y) := by
  rw [cart2polar_eq]
  exact Prod.ext (Complex.norm_mul_sin_arg ⟨y, x⟩) (Complex.norm_mul_cos_arg ⟨y, x⟩)

theorem zero_angle_is_up : (cart2polar (0 : ℝ) 1).2 = 0 := by
  rw [cart2polar_eq]; exact Complex.arg_one

theorem positive_angle_is_right : (cart2polar (1 : ℝ) 0).2 = Real.pi / 2 := by
  rw [cart2polar_eq]; exact Complex.arg_I

/-! ### 1b. radius, angle range, sign and mirror symmetry of the angle convention -/

/-- the radius is the Euclidean distance and is never negative -/
theorem cart2polar_radius (x y : ℝ) : (cart2polar x y).1 = Real.sqrt (x ^ 2 + y ^ 2) ∧ 0 ≤ (cart2polar x y).1 :=
  ⟨by simp only [cart2polar, sqrt_real, sq], Real.sqrt_nonneg _⟩

/-- angles are reported in `(−π, π]` -/
theorem cart2polar_angle_range (x y : ℝ) : -Real.pi < (cart2polar x y).2 ∧ (cart2polar x y).2 ≤ Real.pi := by
  rw [cart2polar_eq]
  exact ⟨Complex.neg_pi_lt_arg _, Complex.arg_le_pi _⟩

/-- **the sign of the angle is the sign of `x`**: points to the right of the vertical axis have positive angles, points to the left
    negative ones (the angle is measured from the upward vertical, clockwise positive in image coordinates) -/
theorem angle_sign (x y : ℝ) : (0 < x → 0 < (cart2polar x y).2) ∧ (x < 0 → (cart2polar x y).2 < 0) := by
  rw [cart2polar_eq]
  refine ⟨fun hx => ?_, fun hx => Complex.arg_neg_iff.2 hx⟩
  refine lt_of_le_of_ne (Complex.arg_nonneg_iff.2 hx.le) fun h => ?_
  exact hx.ne' (Complex.arg_eq_zero_iff.1 h.symm).2

/-- **mirror symmetry of the convention**: reflecting a point in the vertical axis negates its angle (away from the downward
    half-axis, where the angle is `π` on both sides) -/
theorem angle_mirror (x y : ℝ) (h : x ≠ 0 ∨ 0 < y) : (cart2polar (-x) y).2 = -(cart2polar x y).2 := by
  rw [cart2polar_eq, cart2polar_eq]
  have hne : Complex.arg (⟨y, x⟩ : ℂ) ≠ Real.pi := fun hpi =>
    have := Complex.arg_eq_pi_iff.1 hpi
    h.elim (fun hx => hx this.2) (fun hy => lt_asymm hy this.1)
  exact (Complex.arg_conj ⟨y, x⟩).trans (if_neg hne)

/-! ### 2. index_coords puts (0, 0) at the requested origin; negative origins count from the end -/

theorem wrapCoord_of_nonneg (n : ℕ) {o : ℤ} (h : 0 ≤ o) : wrapCoord n o = o := if_neg (not_lt.2 h)

theorem wrapCoord_of_neg (n : ℕ) {o : ℤ} (h : o < 0) : wrapCoord n o = o + n := if_pos h

theorem index_coords_axes (rows cols : ℕ) (oRow oCol : ℤ) (h0 : 0 ≤ oRow) (h1 : 0 ≤ oCol) (row col : ℕ) :
    indexCoords rows cols oRow oCol row col = ((col : ℤ) - oCol, oRow - (row : ℤ)) := by
  rw [indexCoords, wrapCoord_of_nonneg rows h0, wrapCoord_of_nonneg cols h1]

theorem index_coords_origin (rows cols : ℕ) (oRow oCol : ℤ) (h0 : 0 ≤ oRow) (h1 : 0 ≤ oCol) :
    indexCoords rows cols oRow oCol oRow.toNat oCol.toNat = (0, 0) := by
  rw [index_coords_axes rows cols oRow oCol h0 h1, Int.toNat_of_nonneg h0, Int.toNat_of_nonneg h1, sub_self, sub_self]

theorem index_coords_negative_origin (rows cols : ℕ) (oRow oCol : ℤ) (h0 : oRow < 0) (h1 : oCol < 0)
    (row col : ℕ) :
    indexCoords rows cols oRow oCol row col = indexCoords rows cols (oRow + rows) (oCol + cols) row col
      ∨ (oRow + rows < 0 ∨ oCol + cols < 0) := by
  refine or_iff_not_imp_right.2 fun h => ?_
  rw [not_or, not_lt, not_lt] at h
  rw [indexCoords, indexCoords, wrapCoord_of_neg rows h0, wrapCoord_of_neg cols h1, wrapCoord_of_nonneg rows h.1,
    wrapCoord_of_nonneg cols h.2]

/-- without an origin the pole is the centre pixel, of square and non-square frames alike: (0, 0) sits at `(rows // 2, cols // 2)`
and the axes are `x = col − cols // 2`, `y = rows // 2 − row` -/
theorem index_coords_default (rows cols row col : ℕ) :
    indexCoordsDefault rows cols row col = ((col : ℤ) - ((cols / 2 : ℕ) : ℤ), ((rows / 2 : ℕ) : ℤ) - (row : ℤ)) :=
  index_coords_axes rows cols _ _ (Int.natCast_nonneg _) (Int.natCast_nonneg _) row col

theorem index_coords_default_pole (rows cols : ℕ) : indexCoordsDefault rows cols (rows / 2) (cols / 2) = (0, 0) := by
  rw [index_coords_default, sub_self, sub_self]

/-! ### 3. reproject_image_into_polar samples at exactly the polar positions -/

theorem reproject_samples_at (oRow oCol r θ : ℝ) :
    samplePos oRow oCol r θ = (oRow - r * Real.cos θ, r * Real.sin θ + oCol) := rfl

/-! ### 4. int2D = 2π r · avg2D and int3D = 4π r² · avg3D, exactly -/

theorem radialIntensity_factor (kind kind' : Kind) (a : ℝ) (nt : ℕ) (P : ℕ → ℕ → ℝ) (R T : ℕ → ℝ) (dt : ℝ) (k : ℕ)
    (h : ∀ l, kindFactor kind (R k) (T l) = a * kindFactor kind' (R k) (T l)) :
    radialIntensity kind nt P R T dt k = a * radialIntensity kind' nt P R T dt k := by
  rw [radialIntensity, radialIntensity, ← mul_assoc, ← sumRange_smul]
  congr 1
  exact sumRange_congr nt _ _ fun l _ => by rw [h]; ring

theorem int2D_eq (nt : ℕ) (P : ℕ → ℕ → ℝ) (R T : ℕ → ℝ) (dt : ℝ) (k : ℕ) :
    radialIntensity .int2D nt P R T dt k = 2 * Real.pi * R k * radialIntensity .avg2D nt P R T dt k := by
  refine radialIntensity_factor _ _ _ nt P R T dt k fun l => ?_
  simp only [kindFactor, pi_real]
  push_cast; field_simp

theorem int3D_eq (nt : ℕ) (P : ℕ → ℕ → ℝ) (R T : ℕ → ℝ) (dt : ℝ) (k : ℕ) :
    radialIntensity .int3D nt P R T dt k = 4 * Real.pi * (R k) ^ 2 * radialIntensity .avg3D nt P R T dt k := by
  refine radialIntensity_factor _ _ _ nt P R T dt k fun l => ?_
  simp only [kindFactor, pi_real]
  push_cast; ring

/-! ### 5. toPES conserves the integrated intensity (trapezoid rule on both grids)

uniform radial grid `r_k = k·dr`, `k = 0 … K`, profile vanishing at both ends. -/

/-- the Jacobian form holds at the pole too, because `I 0 = 0` -/
theorem toPES_grid (dr c : ℝ) (hdr : dr ≠ 0) (I : ℕ → ℝ) (h0 : I 0 = 0) (k : ℕ) :
    toPES (fun k => (k : ℝ) * dr) I c k = ((k : ℝ) ^ 2 * dr ^ 2 * c, I k / (2 * k) / (dr * c)) := by
  rcases Nat.eq_zero_or_pos k with rfl | hk
  · simp [toPES, h0]
  · have hr := (lt_or_gt_of_ne (mul_ne_zero (Nat.cast_ne_zero.2 hk.ne') hdr)).symm
    simp only [toPES, if_pos hr, Nat.cast_ofNat]
    exact Prod.ext (by ring) (by simp only [div_div]; congr 1; ring)

/-- one cell `[r, r']` of the two trapezoid sums, in terms of `a = I r / (2r)`, `b = I r' / (2r')` -/
theorem trapezoid_cell (dr c r r' a b Ia Ib : ℝ) (hdr : dr ≠ 0) (hc : c ≠ 0) (hr : r' = r + 1) (ha : Ia = 2 * r * a) (hb : Ib = 2 * r' * b) :
    (a / (dr * c) + b / (dr * c)) / 2 * (r' ^ 2 * dr ^ 2 * c - r ^ 2 * dr ^ 2 * c) - (Ia + Ib) / 2 * dr
      = dr / 2 * a - dr / 2 * b := by
  rw [ha, hb, hr]; field_simp; ring

open Finset in
theorem toPES_conserves (K : ℕ) (dr c : ℝ) (hdr : dr ≠ 0) (hc : c ≠ 0) (I : ℕ → ℝ)
    (h0 : I 0 = 0) (hK : I K = 0) :
    (∑ k ∈ range K,
        ((toPES (fun k => (k : ℝ) * dr) I c k).2 + (toPES (fun k => (k : ℝ) * dr) I c (k + 1)).2) / 2
          * ((toPES (fun k => (k : ℝ) * dr) I c (k + 1)).1 - (toPES (fun k => (k : ℝ) * dr) I c k).1))
      = ∑ k ∈ range K, (I k + I (k + 1)) / 2 * dr := by
  -- with `J k = I k / (2k)` the two trapezoids over `[k, k+1]` differ by `dr/2 · (J k − J (k+1))`, which telescopes to nothing
  have hI : ∀ k : ℕ, I k = 2 * k * (I k / (2 * k)) := fun k => by
    rcases Nat.eq_zero_or_pos k with rfl | hk
    · simp [h0]
    · rw [mul_div_cancel₀]; exact mul_ne_zero two_ne_zero (Nat.cast_ne_zero.2 hk.ne')
  rw [← sub_eq_zero, ← sum_sub_distrib]
  calc _ = ∑ k ∈ range K, (dr / 2 * (I k / (2 * k)) - dr / 2 * (I (k + 1) / (2 * (k + 1 : ℕ)))) :=
        sum_congr rfl fun k _ => by
          rw [toPES_grid dr c hdr I h0, toPES_grid dr c hdr I h0]
          exact trapezoid_cell dr c k (k + 1 : ℕ) _ _ _ _ hdr hc (Nat.cast_succ k) (hI k) (hI (k + 1))
    _ = 0 := by rw [sum_range_sub', h0, hK]; simp

section
open Finset

/-- with its options, `toPES` is `toPES` with the effective calibration factor; a photon energy only mirrors the energy axis -/
theorem toPESOpts_eq (radial I : ℕ → ℝ) (c : ℝ) (vrep : Option ℝ) (zoom : ℝ) (k : ℕ) :
    toPESOpts radial I c vrep zoom none true k = toPES radial I (effCal c vrep zoom) k := rfl

theorem toPESOpts_photon (radial I : ℕ → ℝ) (c : ℝ) (vrep : Option ℝ) (zoom hv : ℝ) (k : ℕ) :
    toPESOpts radial I c vrep zoom (some hv) true k
      = (hv - (toPES radial I (effCal c vrep zoom) k).1, (toPES radial I (effCal c vrep zoom) k).2) := rfl

theorem effCal_ne_zero (c : ℝ) (vrep : Option ℝ) (zoom : ℝ) (hc : c ≠ 0) (hz : zoom ≠ 0) (hv : ∀ v, vrep = some v → v ≠ 0) :
    effCal c vrep zoom ≠ 0 := by
  cases vrep with
  | none => exact hc
  | some v => exact div_ne_zero (mul_ne_zero hc (abs_ne_zero.2 (hv v rfl))) (mul_ne_zero hz hz)

/-- **toPES conserves the integrated intensity with every option**: repeller voltage and zoom (any non-zero values), kinetic or
    binding energies — the trapezoid sums over the energy grid and over the radial grid agree (up to the sign of the mirrored axis) -/
theorem toPES_conserves_opts (K : ℕ) (dr c zoom : ℝ) (vrep photon : Option ℝ) (hdr : dr ≠ 0) (hc : c ≠ 0) (hz : zoom ≠ 0)
    (hv : ∀ v, vrep = some v → v ≠ 0) (I : ℕ → ℝ) (h0 : I 0 = 0) (hK : I K = 0) :
    (∑ k ∈ range K,
        ((toPESOpts (fun k => (k : ℝ) * dr) I c vrep zoom photon true k).2 + (toPESOpts (fun k => (k : ℝ) * dr) I c vrep zoom photon true (k + 1)).2) / 2
          * ((toPESOpts (fun k => (k : ℝ) * dr) I c vrep zoom photon true (k + 1)).1 - (toPESOpts (fun k => (k : ℝ) * dr) I c vrep zoom photon true k).1))
      = (match photon with | some _ => -1 | none => 1) * ∑ k ∈ range K, (I k + I (k + 1)) / 2 * dr := by
  have hce := effCal_ne_zero c vrep zoom hc hz hv
  have base := toPES_conserves K dr (effCal c vrep zoom) hdr hce I h0 hK
  cases photon with
  | none =>
    simp only [toPESOpts_eq, one_mul]
    exact base
  | some hvv =>
    simp only [toPESOpts_photon]
    rw [← base, Finset.mul_sum]
    exact Finset.sum_congr rfl fun k _ => by ring
end

/-! ### 6. circularisation with a constant correction samples every pixel at itself -/

theorem circularize_const_id (X Y c : ℝ) (hc : c ≠ 0) : circularizeCoords X Y c c = (X, Y) := by
  rw [circularizeCoords, mul_div_cancel_right₀ X hc, mul_div_cancel_right₀ Y hc]

end PyAbel.C19
