/-
C07 / C20 — the in-memory transform caches of `rbasex.get_bs_cached` (Model/RbasexCache.lean): whatever the history of
requests (other sizes, orders, masks of valid radii, regularisations — valid or not — and cleanups),

  * a call that returns, returns matrices made from exactly the basis, mask and regularisation it asked for
    (`call_returns_requested`): the cache is transparent;
  * a request whose regularisation cannot be honoured raises — never the matrices of an earlier request
    (`invalid_reg_raises`): C20's "never silently substituted" along histories.

Both follow from an invariant of the globals (`Inv`) that every call and cleanup preserves.
-/
import PyAbel.Model.RbasexCache

namespace PyAbel.C07R
open PyAbel.RbxCache

variable {K V R : Type} [DecidableEq K] [DecidableEq V] [DecidableEq R]

/-- the cached matrices are what their keys say: `_trf` was made from the basis and mask now in force; `_tri_prm = [r]` only with
    `_tri` made from the basis, mask and `r`, and only for an `r` that can be honoured; `_tri_full` belongs to the basis in memory -/
def Inv (ok : K → R → Bool) (s : St K V R) : Prop :=
  (∀ t, s.trf = some t → s.bsPrm = some t.1 ∧ t.2 = s.validKey) ∧
  (∀ r, s.triPrm = some r → ∃ k, s.bsPrm = some k ∧ s.tri = some (k, s.validKey, r) ∧ ok k r = true) ∧
  (∀ k, s.triFull = some k → s.bsPrm = some k)

omit [DecidableEq K] [DecidableEq V] [DecidableEq R] in
theorem inv_init (ok : K → R → Bool) (v0 : V) : Inv ok (St.init v0 : St K V R) :=
  ⟨nofun, nofun, nofun⟩

omit [DecidableEq K] [DecidableEq V] [DecidableEq R] in
theorem inv_cleanup (ok : K → R → Bool) (s : St K V R) (sel : Select) (h : Inv ok s) : Inv ok (cleanup s sel) := by
  cases sel
  · exact ⟨nofun, nofun, nofun⟩
  · exact ⟨nofun, h.2.1, h.2.2⟩
  · exact ⟨h.1, nofun, nofun⟩

/-- under the invariant the answer is a function of the request alone: what a process without caches would compute -/
theorem call_eq (ok : K → R → Bool) (noreg : R → Bool) (s : St K V R) (q : Req K V R) (h : Inv ok s) :
    Inv ok (call ok noreg s q).1 ∧
    (call ok noreg s q).2 =
      if q.forward then .fwd (q.k, q.v) else if ok q.k q.reg then .inv (q.k, q.v, q.reg) else .raise := by
  unfold call
  extract_lets s1 s2 s3 s4
  -- the first two statements keep the invariant and put the requested basis and mask in force
  have h1 : Inv ok s1 ∧ s1.bsPrm = some q.k := by
    unfold s1; split
    · exact ⟨h, ‹_›⟩
    · exact ⟨⟨nofun, nofun, nofun⟩, rfl⟩
  have h2 : Inv ok s2 ∧ s2.bsPrm = some q.k ∧ s2.validKey = q.v := by
    unfold s2; split
    · exact ⟨h1.1, h1.2, ‹_›⟩
    · exact ⟨⟨nofun, nofun, h1.1.2.2⟩, h1.2, rfl⟩
  obtain ⟨⟨i1, i2, i3⟩, hb, hv⟩ := h2
  cases hf : q.forward with
  | true =>
    rw [if_pos rfl, if_pos rfl]
    cases ht : s2.trf with
    | some t =>
      -- hit: by the invariant the matrices in `_trf` are those of the basis and mask in force
      obtain ⟨e1, e2⟩ := i1 t ht
      rw [hb] at e1; rw [hv] at e2
      cases t; cases e1; cases e2
      exact ⟨⟨i1, i2, i3⟩, rfl⟩
    | none => exact ⟨⟨by rintro _ ⟨⟩; exact ⟨hb, hv.symm⟩, i2, i3⟩, rfl⟩
  | false =>
    rw [if_neg Bool.false_ne_true, if_neg Bool.false_ne_true]
    by_cases hp : s2.triPrm = some q.reg
    · -- hit: `_tri_prm = [reg]` only with `_tri` made for the basis and mask in force and an honourable `reg`
      rw [if_pos hp]
      obtain ⟨k, hk, ht, hok⟩ := i2 _ hp
      rw [hb] at hk; cases hk; rw [hv] at ht
      rw [ht, if_pos hok]
      exact ⟨⟨i1, i2, i3⟩, rfl⟩
    · rw [if_neg hp]
      cases hok : ok q.k q.reg with
      | true =>
        rw [if_pos rfl, if_pos rfl]
        -- unkeying `_tri` and keeping the unmasked matrices of the requested basis keep all that as well
        have h4 : Inv ok s4 ∧ s4.bsPrm = some q.k ∧ s4.validKey = q.v := by
          unfold s4 s3; split
          · exact ⟨⟨i1, nofun, fun _ e => by cases e; exact hb⟩, hb, hv⟩
          · exact ⟨⟨i1, nofun, i3⟩, hb, hv⟩
        obtain ⟨⟨j1, -, j3⟩, jb, jv⟩ := h4
        exact ⟨⟨j1, by rintro _ ⟨⟩; exact ⟨q.k, jb, by rw [jv], hok⟩, j3⟩, rfl⟩
      | false =>
        rw [if_neg Bool.false_ne_true, if_neg Bool.false_ne_true]
        exact ⟨⟨i1, nofun, i3⟩, rfl⟩

/-- **one call**: the invariant is kept, the answer (if any) is made from what was asked for, and an impossible regularisation
    raises -/
theorem call_spec (ok : K → R → Bool) (noreg : R → Bool) (s : St K V R) (q : Req K V R) (h : Inv ok s) :
    Inv ok (call ok noreg s q).1 ∧
    (∀ t, (call ok noreg s q).2 = .fwd t → q.forward = true ∧ t = (q.k, q.v)) ∧
    (∀ t, (call ok noreg s q).2 = .inv t → q.forward = false ∧ t = (q.k, q.v, q.reg) ∧ ok q.k q.reg = true) ∧
    (q.forward = false → ok q.k q.reg = false → (call ok noreg s q).2 = .raise) := by
  obtain ⟨hi, ho⟩ := call_eq ok noreg s q h
  refine ⟨hi, ?_⟩
  rw [ho]
  cases q.forward with
  | true => exact ⟨fun _ e => by cases e; exact ⟨rfl, rfl⟩, nofun, nofun⟩
  | false =>
    cases ok q.k q.reg with
    | true => exact ⟨nofun, fun _ e => by cases e; exact ⟨rfl, rfl, rfl⟩, nofun⟩
    | false => exact ⟨nofun, nofun, fun _ _ => rfl⟩

theorem inv_step (ok : K → R → Bool) (noreg : R → Bool) (s : St K V R) (op : Op K V R) (h : Inv ok s) : Inv ok (step ok noreg s op) := by
  cases op with
  | call q => exact (call_spec ok noreg s q h).1
  | cleanup sel => exact inv_cleanup ok s sel h

/-- the invariant holds in every state a session can reach -/
theorem inv_run (ok : K → R → Bool) (noreg : R → Bool) (s : St K V R) (ops : List (Op K V R)) (h : Inv ok s) : Inv ok (run ok noreg s ops) :=
  List.foldlRecOn ops _ h fun s hs op _ => inv_step ok noreg s op hs

/-- **cache transparency along any history**: after any sequence of calls and cleanups since the start of the process, a call
    that returns matrices returns those of the basis, mask and regularisation it names -/
theorem call_returns_requested (ok : K → R → Bool) (noreg : R → Bool) (v0 : V) (ops : List (Op K V R)) (q : Req K V R) :
    let out := (call ok noreg (run ok noreg (St.init v0) ops) q).2
    (∀ t, out = .fwd t → q.forward = true ∧ t = (q.k, q.v)) ∧
    (∀ t, out = .inv t → q.forward = false ∧ t = (q.k, q.v, q.reg) ∧ ok q.k q.reg = true) :=
  let h := call_spec ok noreg _ q (inv_run ok noreg _ ops (inv_init ok v0))
  ⟨h.2.1, h.2.2.1⟩

/-- **an impossible regularisation raises whatever came before** (in particular right after the same request has raised, and
    after requests whose matrices are still in memory) -/
theorem invalid_reg_raises (ok : K → R → Bool) (noreg : R → Bool) (v0 : V) (ops : List (Op K V R)) (q : Req K V R)
    (hf : q.forward = false) (hbad : ok q.k q.reg = false) :
    (call ok noreg (run ok noreg (St.init v0) ops) q).2 = .raise :=
  (call_spec ok noreg _ q (inv_run ok noreg _ ops (inv_init ok v0))).2.2.2 hf hbad

/-- a forward request is never answered with inverse matrices, nor an inverse one with forward matrices -/
theorem direction_respected (ok : K → R → Bool) (noreg : R → Bool) (v0 : V) (ops : List (Op K V R)) (q : Req K V R) :
    (q.forward = true → ∀ t, (call ok noreg (run ok noreg (St.init v0) ops) q).2 ≠ .inv t) ∧
    (q.forward = false → ∀ t, (call ok noreg (run ok noreg (St.init v0) ops) q).2 ≠ .fwd t) := by
  have h := call_returns_requested ok noreg v0 ops q
  constructor
  · intro hf t ht; exact Bool.false_ne_true ((h.2 t ht).1.symm.trans hf)
  · intro hf t ht; exact Bool.false_ne_true (hf.symm.trans (h.1 t ht).1)

/-! non-vacuity, on a concrete instance: keys are numbers, regularisation 0 is `None`, 1 is valid, 2 cannot be honoured -/
section
def okEx : Nat → Nat → Bool := fun _ r => r != 2

/-- a valid request, then the impossible one twice: both raise, and the valid one is answered from the cache afterwards -/
example :
    let s1 := (call okEx (fun r => r == 0) (St.init 0 : St Nat Nat Nat) ⟨7, 0, false, 1⟩).1
    let r2 := call okEx (fun r => r == 0) s1 ⟨7, 0, false, 2⟩
    let r3 := call okEx (fun r => r == 0) r2.1 ⟨7, 0, false, 2⟩
    let r4 := call okEx (fun r => r == 0) r3.1 ⟨7, 0, false, 1⟩
    (match r2.2 with | .raise => true | _ => false) = true ∧ (match r3.2 with | .raise => true | _ => false) = true ∧
    (match r4.2 with | .inv t => t == (7, 0, 1) | _ => false) = true := by decide

/-- a mask change invalidates the forward matrices: the next forward call returns matrices for the new mask -/
example :
    let s1 := (call okEx (fun r => r == 0) (St.init 0 : St Nat Nat Nat) ⟨7, 0, true, 0⟩).1
    (match (call okEx (fun r => r == 0) s1 ⟨7, 5, true, 0⟩).2 with | .fwd t => t == (7, 5) | _ => false) = true := by decide
end

end PyAbel.C07R
