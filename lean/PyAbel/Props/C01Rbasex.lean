/-
C01 — rBasex inverse transform recovers exactly any distribution of its own function space from its exact projection: if the
data at the integer distances r ≥ 1 are the true line-of-sight integrals of  Σ_R c_R b_R(ρ)·(r/ρ)ⁿ  (radially piecewise linear,
angular order n), and the axis sample is what the basis assigns to it, then the triangular solve with `P[n]` returns the
coefficients `c_R` themselves — for every order, every `Rmax`, every coefficient vector.
-/
import PyAbel.Props.C02Rbasex

namespace PyAbel.C01
open PyAbel PyAbel.C09 PyAbel.C03 PyAbel.C02

theorem rbasex_inverse_exact (n N : ℕ) (c : ℕ → ℝ) (i : ℕ) (hi : i < N) :
    daunInv N (fun R r => (RbxBasis.P n R r : ℝ))
      (fun r => if r = 0 then sumRange N (fun R => c R * (RbxBasis.P n R 0 : ℝ))
                else Abel (fun ρ => (sumRange N fun R => c R * hat R ρ) * ((r : ℝ) / ρ) ^ n) r) i = c i := by
  refine (congrArg (fun d => daunInv N _ d i) (funext fun r => ?_)).trans (rbasex_radial_roundtrip n N c i hi).1
  split_ifs with h0
  · rw [h0]; rfl
  · exact (rbasex_forward_exact n N c r (Nat.one_le_iff_ne_zero.mpr h0)).symm

end PyAbel.C01
