/-
C09 — rBasex: every entry `P[n][R, r] = p_{R;n}(r)` that `rbasex._bs_rbasex` computes (model: Model/RbasexBasis.lean, the code's
closed forms `F[−1] … F[3]`, its recursion for the higher `F[n]`, `rFRF` and the second difference) is the defining
line-of-sight integral

      p_{R;n}(r) = 2 ∫₀^∞ b_R(ρ) (r/ρ)ⁿ dz,     ρ = √(r² + z²),   b_R = the triangle of half-width 1 centred at R,

for every angular order n ≥ 0 and all integers 1 ≤ r ≤ R (the first column and the entries above the diagonal are the
documented constants).
-/
import PyAbel.Lemmas.AbelFrac
import PyAbel.Lemmas.PolyAbel
import PyAbel.Model.RbasexBasis
import PyAbel.Props.C09

open MeasureTheory Set

namespace PyAbel.C09
open PyAbel PyAbel.RbxBasis

@[simp] theorem acos_real (x : ℝ) : (acos x : ℝ) = Real.arccos x := rfl

/-- the constant the code's antiderivative `F[n]` carries beyond `∫₀^z` (only `F[1] = r ln(z + ρ)` has one) -/
noncomputable def cF (x : ℝ) (n : ℕ) : ℝ := if n = 1 then x * Real.log x else 0

/-- the code's `z = √(ρ·ρ − r·r)` is the half-chord at radius `ρ` -/
theorem sqrt_chord (ρ x : ℝ) : Real.sqrt (ρ * ρ - x * x) = hc (ρ ^ 2 - x ^ 2) := by rw [hc_eq_sqrt, sq, sq]

theorem los_at_chord {x ρ : ℝ} (hx : 0 < x) (hρ : x ≤ ρ) : los x (Real.sqrt (ρ * ρ - x * x)) = ρ := by
  rw [sqrt_chord, los_hc hx.le hρ]

theorem fr_at_chord {x ρ : ℝ} (hx : 0 < x) (hρ : x ≤ ρ) : fr x (Real.sqrt (ρ * ρ - x * x)) = x / ρ := by
  unfold fr; rw [los_at_chord hx hρ]

/-- **the coded `F[n]` are the integrals `∫₀^z (r/ρ)ⁿ`** (plus a constant for n = 1), for every n ≥ 0 -/
theorem F_closed {x ρ : ℝ} (hx : 0 < x) (hρ : x ≤ ρ) (n : ℕ) :
    (F x ρ (n + 1) : ℝ) = Fint x n (Real.sqrt (ρ * ρ - x * x)) + cF x n := by
  have hz : 0 ≤ Real.sqrt (ρ * ρ - x * x) := Real.sqrt_nonneg _
  -- from `F[4]` on the code uses the reduction formula at the chord, where `r/ρ` is the direction cosine
  have hrec := fun m => Fint_rec hx m (Real.sqrt (ρ * ρ - x * x))
  simp only [fr_at_chord hx hρ] at hrec
  induction n using Nat.strong_induction_on with
  | _ n ih =>
    match n with
    | 0 => rw [F, Fint_zero, cF, if_neg zero_ne_one, add_zero, sqrt_real]
    | 1 =>
      rw [F, cF, if_pos rfl, Fint_one hx _ hz, los_at_chord hx hρ, sqrt_real, log_real]
      ring
    | 2 => rw [F, cF, if_neg (by decide), Fint_two hx, ← arccos_fr hx _ hz, fr_at_chord hx hρ, acos_real, add_zero]
    | 3 =>
      have h := hrec 1
      rw [F, cF, if_neg (by decide), sqrt_real]
      push_cast at h
      linear_combination -h
    | k + 4 =>
      have h := hrec (k + 2)
      rw [Nat.cast_succ (k + 1), add_sub_cancel_right] at h
      rw [F, ih (k + 2) (by omega), cF, if_neg (by omega), cF, if_neg (by omega), sqrt_real, distr_pow_eq, add_zero, add_zero,
        Nat.cast_succ (k + 1), ← h, mul_div_cancel_left₀ _ (Nat.cast_add_one_ne_zero _)]

theorem losInt_ramp_frac {x : ℝ} (hx : 0 < x) (R : ℝ) (n : ℕ) : LosInt (fun ρ => ramp R ρ * (x / ρ) ^ n) x :=
  losInt_mul_fr_pow hx (ramp_continuous R) (fun _ => ramp_zero_of_le) n

/-- the affine remainder of `rFRF` (it cancels in the second difference) -/
noncomputable def Lrem (n : ℕ) (x R' : ℝ) : ℝ :=
  match n with
  | 0 => x ^ 2 * Real.log x / 2
  | m + 1 => x * cF x m - R' * cF x (m + 1)

/-- the code's `ρ = max(r, R')` and `z = √(ρ² − r²)` are the radius and the half-chord of the ramp's support -/
theorem rho_chord (r R' : ℕ) :
    let ρ : ℝ := if R' < r then (r : ℝ) else (R' : ℝ)
    (r : ℝ) ≤ ρ ∧ Real.sqrt (ρ * ρ - (r : ℝ) * r) = hc ((R' : ℝ) ^ 2 - (r : ℝ) ^ 2) := by
  dsimp only
  split_ifs with h
  · rw [sub_self, Real.sqrt_zero, hc_sq_sub_of_le (Nat.cast_nonneg _) (Nat.cast_le.mpr h.le)]
    exact ⟨le_rfl, rfl⟩
  · exact ⟨Nat.cast_le.mpr (not_lt.mp h), sqrt_chord _ _⟩

/-- **`rFRF` is minus half the Abel integral of ramp × (r/ρ)ⁿ, plus an affine function of R'** -/
theorem rFRF_eq (n r R' : ℕ) (hr : 1 ≤ r) :
    (rFRF n r R' : ℝ) = -(1 / 2) * Abel (fun ρ => ramp (R' : ℝ) ρ * ((r : ℝ) / ρ) ^ n) r + Lrem n r R' := by
  have hx : (0 : ℝ) < r := Nat.cast_pos.mpr hr
  have hR0 : (0 : ℝ) ≤ R' := Nat.cast_nonneg _
  obtain ⟨hρ, hz⟩ := rho_chord r R'
  unfold rFRF
  simp only
  set ρ : ℝ := if R' < r then (r : ℝ) else (R' : ℝ)
  match n with
  | 0 =>
    -- `r·F[−1]` is the integral of `ρ` along the chord, `J 1`, up to the constant; in `F[−1]`, `z / f = z ρ / r`
    have e : (r : ℝ) * (Real.sqrt (ρ * ρ - r * r) / (r / ρ)) = Real.sqrt (ρ * ρ - r * r) * ρ := by
      rw [div_div_eq_mul_div, mul_div_cancel₀ _ hx.ne']
    simp only [F, Lrem, sqrt_real, log_real, Nat.cast_ofNat, pow_zero, mul_one]
    rw [abel_ramp_chord _ _ hR0, J_one _ le_rfl (hc_nonneg _), ← hz, los_at_chord hx hρ, los_zero_arg hx.le, zero_add (r : ℝ)]
    linear_combination (1 / 2 : ℝ) * e
  | m + 1 =>
    rw [abel_ramp_frac hx _ hR0 m, F_closed hx hρ m, F_closed hx hρ (m + 1), hz]
    simp only [Lrem]
    ring

theorem Lrem_second_diff (n : ℕ) (x R : ℝ) : 2 * Lrem n x R - Lrem n x (R + 1) - Lrem n x (R - 1) = 0 := by
  cases n with
  | zero => simp only [Lrem]; ring
  | succ m => simp only [Lrem]; ring

/-- **rBasex basis projections are their defining integrals**: for every angular order `n` and all integers `1 ≤ r ≤ R`,
    `P[n][R, r] = 2 ∫₀^∞ b_R(ρ) (r/ρ)ⁿ dz` with `b_R` the triangle of half-width 1 at `R` -/
theorem rbasex_p_eq_abel (n R r : ℕ) (hr : 1 ≤ r) (hrR : r ≤ R) :
    (p n R r : ℝ) = Abel (fun ρ => hat R ρ * ((r : ℝ) / ρ) ^ n) r := by
  have hx : (0 : ℝ) < r := Nat.cast_pos.mpr hr
  have i1 := losInt_ramp_frac hx ((R : ℝ) + 1) n
  have i2 := (losInt_ramp_frac hx (R : ℝ) n).const_mul 2
  -- the hat is a second difference of ramps, so is its integral
  simp only [hat_eq_ramps, add_mul, sub_mul, mul_assoc]
  rw [abel_add (i1.sub i2) (losInt_ramp_frac hx _ n), abel_sub i1 i2, abel_const_mul]
  -- each ramp integral is what the code's rFRF holds, up to the affine remainder
  unfold p
  rw [Nat.cast_ofNat, rFRF_eq n r R hr, rFRF_eq n r (R + 1) hr, rFRF_eq n r (R - 1) hr, Nat.cast_succ, Nat.cast_pred (hr.trans hrR)]
  linear_combination 2 * Lrem_second_diff n (r : ℝ) (R : ℝ)

/-- the documented conventions outside `1 ≤ r ≤ R`: zero above the diagonal, `p_{R;0}(0) = 2` for `R > 0` (the chord through the
    centre of the triangle: `2 ∫ b_R(z) dz = 2`), and the unit entry that keeps each matrix non-degenerate -/
theorem rbasex_P_conventions (n R r : ℕ) :
    (R < r → r ≠ 0 → (P n R r : ℝ) = 0) ∧ (r = 0 → 0 < R → (P 0 R r : ℝ) = 2) ∧ ((P n 0 0 : ℝ) = 1) ∧
    (1 ≤ r → r ≤ R → (P n R r : ℝ) = p n R r) := by
  refine ⟨?_, ?_, ?_, ?_⟩
  · intro h h0; simp [P, h0, h]
  · intro h hR; subst h; simp [P, Nat.pos_iff_ne_zero.mp hR]
  · simp [P]
  · intro h1 h2; simp [P, Nat.one_le_iff_ne_zero.mp h1, not_lt.mpr h2]

/-- non-vacuity: order 2, R = 3, r = 1 -/
example : (p 2 3 1 : ℝ) = Abel (fun ρ => hat 3 ρ * (((1 : ℕ) : ℝ) / ρ) ^ 2) ((1 : ℕ) : ℝ) :=
  rbasex_p_eq_abel 2 3 1 (le_refl 1) (by norm_num)

end PyAbel.C09
