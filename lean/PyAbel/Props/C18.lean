/-
C18 — public functions leave their arguments intact.

Effect IR and certificates: PyAbel/Gen/Effects.lean, regenerated from /repo by harness/gen_effects.py on every check.
(1) soundness of the certificate check (`no_write_to_clean_param`): in every execution of a unit's statements — any
    order, any repetition, any subset, callees behaving within their summaries — a parameter that the checked
    certificate does not list as written is never modified in place;
(2) the certificates for the current source are accepted (`certificates_check`, kernel-decided);
(3) the only parameters of public functions listed as possibly written are number-valued (`only_scalars_written`);
    they are flagged because `x += …` on a Python number is indistinguishable, without types, from an in-place array
    update (the runtime suite shows they are not modified);
(4) no public function returns an object that shares memory with a module-level cache (`results_do_not_alias_caches`),
    except the documented-internal basis getters.
-/
import PyAbel.Gen.Effects

namespace PyAbel.C18
open PyAbel.Effects PyAbel.Gen

/-! ### 1. semantics and soundness -/

/-- abstract memory: which location each variable denotes, and how often each location was modified in place -/
structure Mem where
  loc : Nat → Nat
  ver : Nat → Nat

def upd (f : Nat → Nat) (a b : Nat) : Nat → Nat := fun x => if x = a then b else f x

/-- one statement, possibly not executed at all (`skip`); a callee may write / return only what its summary allows;
    objects created by a call live at locations `≥ nvars`, i.e. distinct from every root's object -/
inductive Step (ss : List Summary) (nvars : Nat) : Mem → Stmt → Mem → Prop
  | skip (m s) : Step ss nvars m s m
  | share (m d s) : Step ss nvars m (.share d s) ⟨upd m.loc d (m.loc s), m.ver⟩
  | write (m v) : Step ss nvars m (.write v) ⟨m.loc, upd m.ver (m.loc v) (m.ver (m.loc v) + 1)⟩
  | callW (m g j v) (h : calleeWrites ss g j = true) :
      Step ss nvars m (.call g j v) ⟨m.loc, upd m.ver (m.loc v) (m.ver (m.loc v) + 1)⟩
  | callretAlias (m d g j v) (h : calleeReturns ss g j = true) :
      Step ss nvars m (.callret d g j v) ⟨upd m.loc d (m.loc v), m.ver⟩
  | callretFresh (m d g j v l) (hl : nvars ≤ l) : Step ss nvars m (.callret d g j v) ⟨upd m.loc d l, m.ver⟩

/-- an execution: any finite sequence of the unit's statements -/
inductive Exec (ss : List Summary) (u : Effects.Unit) : Mem → Mem → Prop
  | nil (m) : Exec ss u m m
  | cons (m m' m'' s) (hs : s ∈ u.stmts) (h : Step ss u.nvars m s m') (t : Exec ss u m' m'') : Exec ss u m m''

def Mem.init : Mem := ⟨id, fun _ => 0⟩

theorem mem_edges_share (ss : List Summary) (u : Effects.Unit) (d s : Nat) (h : Stmt.share d s ∈ u.stmts) :
    (d, s) ∈ edges ss u := by
  simp only [edges, List.mem_filterMap]
  exact ⟨_, h, rfl⟩

theorem mem_edges_callret (ss : List Summary) (u : Effects.Unit) (d g j v : Nat) (h : Stmt.callret d g j v ∈ u.stmts)
    (hr : calleeReturns ss g j = true) : (d, v) ∈ edges ss u := by
  simp only [edges, List.mem_filterMap]
  exact ⟨_, h, by simp [hr]⟩

/-- what a consistent points-to table promises of a memory: a variable that denotes a root's object lists that root, the roots
    still denote their own objects, and parameter `i` has not been modified -/
def Safe (u : Effects.Unit) (pts : Nat → List Nat) (i : Nat) (m : Mem) : Prop :=
  (∀ v r, r ∈ u.roots → m.loc v = r → r ∈ pts v) ∧ (∀ r ∈ u.roots, m.loc r = r) ∧ m.ver i = 0

section
variable {u : Effects.Unit} {pts : Nat → List Nat} {i : Nat} {m : Mem} (h : Safe u pts i m)
include h

theorem Safe.rebind {d l : Nat}
    (hd : d ∉ u.roots) (hl : ∀ r ∈ u.roots, l = r → r ∈ pts d) : Safe u pts i ⟨upd m.loc d l, m.ver⟩ := by
  obtain ⟨hI, hR, hV⟩ := h
  refine ⟨fun v r hr hloc => ?_, fun r hr => ?_, hV⟩
  · simp only [upd] at hloc
    split at hloc
    · subst v; exact hl r hr hloc
    · exact hI v r hr hloc
  · have : r ≠ d := fun h => hd (h ▸ hr)
    simp only [upd, if_neg this]
    exact hR r hr

theorem Safe.share {d s : Nat} (hd : d ∉ u.roots) (hsub : ∀ r ∈ pts s, r ∈ pts d) :
    Safe u pts i ⟨upd m.loc d (m.loc s), m.ver⟩ :=
  h.rebind hd fun r hr e => hsub r (h.1 s r hr e)

theorem Safe.bump {v : Nat}
    (hi : i ∈ u.roots) (hv : i ∉ pts v) : Safe u pts i ⟨m.loc, upd m.ver (m.loc v) (m.ver (m.loc v) + 1)⟩ := by
  have : i ≠ m.loc v := fun hloc => hv (h.1 v i hi hloc.symm)
  refine ⟨h.1, h.2.1, ?_⟩
  simp only [upd, if_neg this]
  exact h.2.2
end

/-- **Soundness.**  If the certificate passes the consistency checks, then whatever happens during an execution of
    the unit, a parameter outside `computedWrites` keeps version 0: it is never modified in place. -/
theorem no_write_to_clean_param (ss : List Summary) (u : Effects.Unit) (pts : Nat → List Nat)
    (hcons : consistent u.roots (edges ss u) pts = true)
    (hfix : rootsFixed u.roots (dests u) = true)
    (hroots : u.roots.all (· < u.nvars) = true)
    (m : Mem) (hexec : Exec ss u Mem.init m)
    (i : Nat) (hi : i < u.params.length) (hclean : i ∉ computedWrites ss u pts) :
    m.ver i = 0 := by
  simp only [consistent, rootsFixed, dests, Bool.and_eq_true, List.all_eq_true, List.contains_eq_mem, decide_eq_true_eq,
    List.mem_filterMap, Bool.not_eq_eq_eq_not, Bool.not_true, decide_eq_false_iff_not] at hcons hfix hroots
  obtain ⟨hself, hedge⟩ := hcons
  have hi_root : i ∈ u.roots := by simp [Unit.roots, hi]
  -- no possibly written variable lists parameter `i`
  have hmiss : ∀ v ∈ writtenVars ss u, i ∉ pts v := fun v hv hiv =>
    hclean (List.mem_filter.2 ⟨List.mem_range.2 hi, List.contains_iff_mem.2 (List.mem_flatMap.2 ⟨v, hv, hiv⟩)⟩)
  simp only [writtenVars, List.mem_filterMap] at hmiss
  have h : Safe u pts i Mem.init := ⟨fun v r hr e => by cases e; exact hself v hr, fun _ _ => rfl, rfl⟩
  generalize Mem.init = m0 at hexec h
  induction hexec with
  | nil m => exact h.2.2
  | cons m m' m'' s hs hstep _ ih =>
    refine ih ?_
    cases hstep with
    | skip => exact h
    | share d s => exact h.share (hfix d ⟨_, hs, rfl⟩) (hedge _ (mem_edges_share ss u d s hs))
    | write v => exact h.bump hi_root (hmiss v ⟨_, hs, rfl⟩)
    | callW g j v hw => exact h.bump hi_root (hmiss v ⟨_, hs, if_pos hw⟩)
    | callretAlias d g j v hr =>
      exact h.share (hfix d ⟨_, hs, rfl⟩) (hedge _ (mem_edges_callret ss u d g j v hs hr))
    | callretFresh d g j v l hl =>
      -- a fresh location is no root's object
      exact h.rebind (hfix d ⟨_, hs, rfl⟩) fun r hr e => absurd (hroots r hr) (Nat.not_lt.mpr (e ▸ hl))

/-! ### 2. the certificates generated for the current source pass the check -/

theorem certificates_check : checkAll effectUnits effectCerts = true := by decide +kernel

/-! ### 3. what is listed as possibly written, among public functions -/

/-- number-valued parameters on which the source uses `+=`-style rebinding (documented types in the docstrings) -/
def scalarParams : List (String × String) :=
  [("index_coords", "origin"), ("Distributions", "origin"), ("rbasex_transform", "origin"), ("harmonics", "origin"),
   ("rharmonics", "origin"), ("Ibeta", "origin"), ("rIbeta", "origin"), ("rcos", "origin"),
   ("Polynomial", "r_min"), ("Polynomial", "r_0"), ("Polynomial", "s")]

theorem only_scalars_written :
    ((effectUnits.zip effectCerts).all fun uc =>
      !uc.1.isPublic || uc.2.summary.writes.all fun i => scalarParams.contains (uc.1.name, uc.1.params.getD i "?")) = true := by
  decide +kernel

/-! ### 4. results do not alias module-level caches -/

/-- functions documented as internal that hand out the cached basis itself -/
def internalGetters : List String :=
  ["abel.basex.get_bs_cached", "abel.dasch.get_bs_cached", "abel.daun.get_bs_cached", "abel.linbasex.get_bs_cached",
   "abel.rbasex.get_bs_cached", "abel.transform.get_basis_dir"]

theorem results_do_not_alias_caches :
    ((effectUnits.zip effectCerts).all fun uc =>
      !uc.1.isPublic || !returnsCache uc.1 uc.2 || internalGetters.contains uc.1.qual) = true := by
  decide +kernel

/-- non-vacuity: the table covers the library and contains the transform functions -/
theorem table_covers : 100 ≤ effectUnits.length ∧
    (effectUnits.any fun u => u.name == "hansenlaw_transform") = true ∧
    (effectUnits.any fun u => u.name == "toPES") = true := by decide +kernel

end PyAbel.C18
