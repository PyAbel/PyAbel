/-
C16 — rBasex image, distributions and output shapes describe one transform.

Model: PyAbel/Model/RbasexImage.lean.  Every `out` image is the window `frame out` on the one synthesis function
`F(y, x)`; the theorems are (i) what the synthesis does along the radius (interpolation nodes, the linear
fall to zero between rmax and rmax + 1, zero beyond), over any field, and (ii) the index relations
between the five output frames.
-/
import PyAbel.Model.RbasexImage
import PyAbel.Lemmas.ModelArith
import Mathlib.Algebra.BigOperators.Ring.List
import Mathlib.Tactic.Ring

namespace PyAbel.C16
open PyAbel.Rbasex PyAbel.Distr

variable {K : Type} [Field K]

theorem cz_of_le {rmax k : ℕ} (h : k ≤ rmax) (c : ℕ → ℕ → K) (n : ℕ) : cz rmax c n k = c n k := if_pos h

theorem cz_of_lt {rmax k : ℕ} (h : rmax < k) (c : ℕ → ℕ → K) (n : ℕ) : cz rmax c n k = 0 := if_neg (not_le.mpr h)

theorem cz_linear (rmax : ℕ) (c d : ℕ → ℕ → K) (a b : K) (n k : ℕ) :
    cz rmax (fun n k => a * c n k + b * d n k) n k = a * cz rmax c n k + b * cz rmax d n k := by
  unfold cz; split_ifs
  · rfl
  · rw [mul_zero, mul_zero, add_zero]

theorem synth_eq_sum (rmax N : ℕ) (c : ℕ → ℕ → K) (bin : ℕ) (wu t : K) :
    synth rmax N c bin wu t
      = ((List.range N).map fun n => ((1 - wu) * cz rmax c n bin + wu * cz rmax c n (bin + 1)) * t ^ n).sum := by
  simp only [synth, Distr.lsum_eq_sum, distr_pow_eq]

/-- at an integer radius `k ≤ rmax` the image is exactly Σ_n c_n(k) cosⁿθ -/
theorem synth_at_node (rmax N : ℕ) (c : ℕ → ℕ → K) (k : ℕ) (hk : k ≤ rmax) (t : K) :
    synth rmax N c k 0 t = ((List.range N).map fun n => c n k * t ^ n).sum := by
  simp only [synth_eq_sum, cz_of_le hk, sub_zero, one_mul, zero_mul, add_zero]

/-- between integer radii: linear interpolation of every distribution -/
theorem synth_between (rmax N : ℕ) (c : ℕ → ℕ → K) (k : ℕ) (hk : k + 1 ≤ rmax) (wu t : K) :
    synth rmax N c k wu t = ((List.range N).map fun n => ((1 - wu) * c n k + wu * c n (k + 1)) * t ^ n).sum := by
  simp only [synth_eq_sum, cz_of_le hk, cz_of_le (Nat.le_of_succ_le hk)]

/-- from rmax to rmax + 1 the image falls linearly to zero … -/
theorem synth_falloff (rmax N : ℕ) (c : ℕ → ℕ → K) (wu t : K) :
    synth rmax N c rmax wu t = (1 - wu) * ((List.range N).map fun n => c n rmax * t ^ n).sum := by
  simp only [synth_eq_sum, cz_of_le le_rfl, cz_of_lt (Nat.lt_succ_self rmax), mul_zero, add_zero, mul_assoc,
    List.sum_map_mul_left]

/-- … and is zero everywhere beyond (one pixel beyond rmax and further) -/
theorem synth_beyond (rmax N : ℕ) (c : ℕ → ℕ → K) (bin : ℕ) (h : rmax < bin) (wu t : K) :
    synth rmax N c bin wu t = 0 := by
  simp only [synth_eq_sum, cz_of_lt h, cz_of_lt (Nat.lt_succ_of_lt h), mul_zero, add_zero, zero_mul, List.map_const',
    List.sum_replicate, nsmul_zero]


/-- **the image is continuous across every bin boundary**: the upper end of bin `k` (`wu = 1`) is the lower end of bin `k + 1`
    (`wu = 0`) — at all radii, including the two boundaries of the fall-off zone -/
theorem synth_continuous (rmax N : ℕ) (c : ℕ → ℕ → K) (k : ℕ) (t : K) :
    synth rmax N c k 1 t = synth rmax N c (k + 1) 0 t := by
  simp only [synth_eq_sum, sub_self, sub_zero, zero_mul, one_mul, zero_add, add_zero]

/-- **the image is determined by the distributions it is said to describe**: only the values `c n k` with `n < N` and `k ≤ rmax`
    enter — anything stored beyond (`rmax + 1 …`, higher orders) is never read -/
theorem synth_congr (rmax N : ℕ) (c d : ℕ → ℕ → K) (h : ∀ n k, n < N → k ≤ rmax → c n k = d n k) (bin : ℕ) (wu t : K) :
    synth rmax N c bin wu t = synth rmax N d bin wu t := by
  rw [synth_eq_sum, synth_eq_sum]
  refine congrArg List.sum (List.map_congr_left fun n hn => ?_)
  have e : ∀ k, cz rmax c n k = cz rmax d n k := fun k => ite_congr rfl (h n k (List.mem_range.mp hn)) fun _ => rfl
  rw [e, e]

/-- the image is linear in the distributions -/
theorem synth_linear (rmax N : ℕ) (c d : ℕ → ℕ → K) (a b : K) (bin : ℕ) (wu t : K) :
    synth rmax N (fun n k => a * c n k + b * d n k) bin wu t
      = a * synth rmax N c bin wu t + b * synth rmax N d bin wu t := by
  simp only [synth_eq_sum, cz_linear]
  rw [← List.sum_map_mul_left, ← List.sum_map_mul_left, ← List.sum_map_add]
  exact congrArg List.sum (List.map_congr_left fun n _ => by ring)

/-- zero distributions give the zero image -/
theorem synth_zero (rmax N : ℕ) (bin : ℕ) (wu t : K) : synth rmax N (fun _ _ => (0 : K)) bin wu t = 0 := by
  simpa using synth_linear rmax N (fun _ _ => 0) (fun _ _ => 0) 0 0 bin wu t

/-! ### output frames -/

/-- `out='same'` has the input's shape and origin -/
theorem same_shape_origin (height width : ℕ) (g : Geometry) :
    (frame .same height width g).rows = height ∧ (frame .same height width g).cols = width ∧
    (frame .same height width g).oy = g.row ∧ (frame .same height width g).ox = g.col := by
  simp [frame]

/-- `out='full'` is the centred (2·rmax + 1)-square -/
theorem full_is_centred_square (height width : ℕ) (g : Geometry) :
    let f := frame .full height width g
    f.rows = 2 * g.rmax + 1 ∧ f.cols = 2 * g.rmax + 1 ∧ f.oy = g.rmax ∧ f.ox = g.rmax := by
  simp [frame]

/-- `'full-unique'` is the unique part of `'full'`: the right half (odd) or the upper-right quadrant (even only),
    i.e. pixel (i, j) of it is pixel (i, rmax + j) of `'full'` -/
theorem full_unique_is_part_of_full (height width : ℕ) (g : Geometry) (N : ℕ) (c : ℕ → ℕ → Float) (i j : ℕ) :
    outPx g.rmax N g.odd c (frame .fullUnique height width g) i j
      = outPx g.rmax N g.odd c (frame .full height width g) i (g.rmax + j) := by
  simp only [outPx, frame]
  cases g.odd <;> simp

/-- `'fold'` is the unique part of `'unfold'` -/
theorem fold_is_part_of_unfold (height width : ℕ) (g : Geometry) (N : ℕ) (c : ℕ → ℕ → Float) (i j : ℕ)
    (hq : 1 ≤ g.qwidth) :
    outPx g.rmax N g.odd c (frame .fold height width g) i j
      = outPx g.rmax N g.odd c (frame .unfold height width g) i (g.qwidth - 1 + j) := by
  simp only [outPx, frame]
  -- same row offset; the column offsets `j - 0` and `(qwidth - 1 + j) - (qwidth - 1)` agree
  split_ifs <;> exact congrArg (F _ _ _ _ _) (by dsimp only; omega)

/-- the frames of `'unfold'` are the mirror-unfolding of `'fold'`: twice the size minus the shared axis -/
theorem unfold_frame (height width : ℕ) (g : Geometry) :
    let f := frame .fold height width g
    let u := frame .unfold height width g
    u.cols = 2 * f.cols - 1 ∧ (u.rows = if g.odd then f.rows else 2 * f.rows - 1) := by
  simp only [frame]
  cases g.odd <;> trivial

end PyAbel.C16
