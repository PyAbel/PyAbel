/-
C15 — the windowed anisotropy of `Results.Ibeta(window)` (Model/Window.lean).

The moving average is linear, so an anisotropy that is the same at every radius survives any window unchanged — at every
radius where the averaged P₀ does not vanish, the ends of the array (where `mode='nearest'` repeats the end samples)
included; the mask is the *averaged* P₀: radii without data next to radii with data get the β of their neighbourhood, radii
whose whole window is without data get 0; window 1 is the plain ratio.
-/
import PyAbel.Model.Window
import PyAbel.Lemmas.Linalg
import Mathlib.Algebra.BigOperators.Ring.Finset
import Mathlib.Algebra.Field.Basic
import Mathlib.Tactic.NormNum

namespace PyAbel.C15Window
open PyAbel PyAbel.Window Finset

variable {K : Type} [Field K]

theorem movavg_eq (w n : ℕ) (x : ℕ → K) (i : ℕ) :
    movavg w n x i = (∑ k ∈ range w, x (clampIdx n ((i : ℤ) + (k : ℤ) - ((w / 2 : ℕ) : ℤ)))) / (w : K) := by
  unfold movavg; rw [sumRange_eq_sum]

/-- the moving average is homogeneous … -/
theorem movavg_smul (w n : ℕ) (b : K) (x : ℕ → K) (i : ℕ) :
    movavg w n (fun j => b * x j) i = b * movavg w n x i := by
  rw [movavg_eq, movavg_eq, ← Finset.mul_sum, mul_div_assoc]

/-- … and additive -/
theorem movavg_add (w n : ℕ) (x y : ℕ → K) (i : ℕ) :
    movavg w n (fun j => x j + y j) i = movavg w n x i + movavg w n y i := by
  rw [movavg_eq, movavg_eq, movavg_eq, Finset.sum_add_distrib, add_div]

/-- a constant profile is its own moving average (any window whose size is not zero in `K`) -/
theorem movavg_const (w n : ℕ) (c : K) (i : ℕ) (hw : (w : K) ≠ 0) : movavg w n (fun _ => c) i = c := by
  rw [movavg_eq, Finset.sum_const, card_range, nsmul_eq_mul, mul_div_cancel_left₀ _ hw]

theorem clampIdx_of_lt {n j : ℕ} (h : j < n) {z : ℤ} (hz : z = j) : clampIdx n z = j := by
  subst hz
  unfold clampIdx
  rw [if_neg (by omega), if_neg (by omega), Int.toNat_natCast]

/-- window 1 is the sample itself -/
theorem movavg_one (n : ℕ) (x : ℕ → K) (i : ℕ) (hi : i < n) : movavg 1 n x i = x i := by
  rw [movavg_eq, Finset.sum_range_one, clampIdx_of_lt hi (by norm_num), Nat.cast_one, div_one]

/-- away from the ends the window is the `w` samples `i − ⌊w/2⌋ … i − ⌊w/2⌋ + w − 1` themselves -/
theorem movavg_interior (w n : ℕ) (x : ℕ → K) (i : ℕ) (hlo : w / 2 ≤ i) (hhi : i - w / 2 + w ≤ n) :
    movavg w n x i = (∑ k ∈ range w, x (i - w / 2 + k)) / (w : K) := by
  rw [movavg_eq]
  congr 1
  refine Finset.sum_congr rfl fun k hk => ?_
  rw [clampIdx_of_lt ((Nat.add_lt_add_left (Finset.mem_range.mp hk) _).trans_le hhi)
    (by rw [Nat.cast_add, Nat.cast_sub hlo, sub_add_eq_add_sub])]

variable [DecidableEq K]

/-- window ≤ 1: the plain ratio, zero where P₀ vanishes -/
theorem beta_window_one (n : ℕ) (Pn P0 : ℕ → K) (i : ℕ) :
    beta 1 n Pn P0 i = if P0 i = 0 then 0 else Pn i / P0 i := by
  simp [beta]

/-- the mask is the averaged P₀: where it vanishes β is 0 … -/
theorem beta_zero_of_no_data (w n : ℕ) (Pn P0 : ℕ → K) (i : ℕ) (hw : 1 < w) (hd : movavg w n P0 i = 0) :
    beta w n Pn P0 i = 0 := by
  simp [beta, not_le.mpr hw, hd]

/-- … and where it does not, β is the ratio of the averages, also at a radius whose own P₀ is zero -/
theorem beta_of_averages (w n : ℕ) (Pn P0 : ℕ → K) (i : ℕ) (hw : 1 < w) (hd : movavg w n P0 i ≠ 0) :
    beta w n Pn P0 i = movavg w n Pn i / movavg w n P0 i := by
  simp [beta, not_le.mpr hw, hd]

/-- **a radius-independent anisotropy survives the window**: if Pₙ = b·P₀ at every radius, the windowed β is `b` wherever
the averaged P₀ does not vanish — whatever the window, at the ends of the array too -/
theorem beta_const_anisotropy (w n : ℕ) (Pn P0 : ℕ → K) (b : K) (i : ℕ) (h : ∀ j, Pn j = b * P0 j)
    (hw : 1 < w) (hd : movavg w n P0 i ≠ 0) : beta w n Pn P0 i = b := by
  rw [beta_of_averages w n Pn P0 i hw hd, funext h, movavg_smul, mul_div_cancel_right₀ _ hd]

/-! non-vacuity: P₀ = (1, 0, 1, 1), Pₙ = 2·P₀, window 3 at the empty radius 1: β = 2 there (not 0) -/
example : beta 3 4 (fun j => if j = 1 then (0 : ℚ) else 2) (fun j => if j = 1 then (0 : ℚ) else 1) 1 = 2 := by
  apply beta_const_anisotropy 3 4 _ _ 2 1
  · intro j; by_cases hj : j = 1 <;> simp [hj]
  · decide
  · decide +kernel

end PyAbel.C15Window
