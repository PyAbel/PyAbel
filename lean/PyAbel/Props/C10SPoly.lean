/-
C10 — `SPolynomial`: the Abel transform of every term `r^m cos^n θ` restricted to `[r_min, r_max)` as the code computes it
(Model/SPolyTerm.lean: the antiderivatives `F(k, lim)` for every integer `k = n − m`, closed forms, upward and downward recursion)
is the line-of-sight integral of that term: with `R = √(r² + z²)` the 3-D radius and `cos Θ = r cos θ / R`,

      term m n r_min r_max r cos = 2 ∫₀^∞ [r_min ≤ R < r_max] · Rᵐ · (r cos θ / R)ⁿ dz

for all `m, n ≥ 0`, `0 ≤ r_min < r_max`, `0 < r < r_max` and every `cos`.  (Sums over terms, the shift / stretch transform and the
Horner assembly are linear; they are checked by the correspondence run and the quadrature oracle.)
-/
import PyAbel.Lemmas.AbelFrac
import PyAbel.Model.SPolyTerm
import PyAbel.Props.C09Rbasex
import Mathlib.Analysis.SpecialFunctions.Integrals.Basic

open MeasureTheory Set

namespace PyAbel.C10
open PyAbel PyAbel.SPoly PyAbel.C09

/-- the constants carried by the code's antiderivatives at negative index (they cancel between the two limits) -/
noncomputable def cNeg (x : ℝ) : ℕ → ℝ
  | 0 => 0
  | 1 => x * Real.log x / 2
  | n + 2 => ((n : ℝ) + 2) / ((n : ℝ) + 3) * cNeg x n

/-- **downward branch**: `F(−n)` is `∫₀^z (ρ/x)ⁿ` up to a constant that does not depend on the limit -/
theorem Fneg_closed {x ρ : ℝ} (hx : 0 < x) (hρ : x ≤ ρ) (n : ℕ) :
    (Fneg x ρ n : ℝ) = Fz x (-(n : ℤ)) (Real.sqrt (ρ * ρ - x * x)) + cNeg x n := by
  -- the code's recursion is the reduction formula at the chord, where `(x/ρ)⁻¹ = ρ/x`
  have hrec := fun m => Fz_rec_neg hx m (Real.sqrt (ρ * ρ - x * x))
  simp only [fr_at_chord hx hρ, inv_div] at hrec
  induction n using Nat.twoStepInduction with
  | zero => rw [Fneg, F_closed hx hρ 0, ← Fz_natCast, cF, if_neg zero_ne_one, cNeg, Nat.cast_zero, neg_zero]
  | one =>
    have h1 := hrec 1
    rw [Fneg, F_closed hx hρ 1, ← Fz_natCast, cF, if_pos rfl, cNeg, sqrt_real, distr_pow_eq]
    push_cast at h1 ⊢
    linear_combination (-1 / 2 : ℝ) * h1
  | more k ih _ =>
    have h2 := hrec (k + 2)
    have h3 : (k : ℝ) + 3 ≠ 0 := by positivity
    rw [Fneg, ih, cNeg, sqrt_real, distr_pow_eq]
    push_cast at h2 ⊢
    rw [sub_add_cancel_right] at h2
    rw [div_eq_iff h3]
    linear_combination -h2 - cNeg x k * div_mul_cancel₀ ((k : ℝ) + 2) h3

/-- the constant of `F(k)` for every integer `k` -/
noncomputable def cInt (x : ℝ) (k : ℤ) : ℝ := if 0 ≤ k then cF x k.toNat else cNeg x (-k).toNat

/-- **`F(k, lim)` is `∫₀^z (x/ρ)ᵏ` plus a constant independent of the limit, for every integer `k`** -/
theorem Fk_closed {x ρ : ℝ} (hx : 0 < x) (hρ : x ≤ ρ) (k : ℤ) :
    (Fk x ρ k : ℝ) = Fz x k (Real.sqrt (ρ * ρ - x * x)) + cInt x k := by
  unfold Fk cInt
  by_cases hk : 0 ≤ k
  · rw [if_pos hk, if_pos hk, F_closed hx hρ k.toNat, ← Fz_natCast, Int.toNat_of_nonneg hk]
  · rw [if_neg hk, if_neg hk, Fneg_closed hx hρ (-k).toNat, Int.toNat_of_nonneg (neg_nonneg.mpr (not_le.mp hk).le), neg_neg]

theorem abel_shellFun (g : ℝ → ℝ) (r1 r2 x : ℝ) (h1 : 0 ≤ r1) (h12 : r1 ≤ r2) :
    Abel (indicator (Ico r1 r2) g) x = 2 * ∫ z in hc (r1 ^ 2 - x ^ 2)..hc (r2 ^ 2 - x ^ 2), g (los x z) :=
  abel_indicator_Ico g x h1 h12

/-- **every `SPolynomial` term is projected exactly** -/
theorem spolynomial_term_abel (m n : ℕ) (rmin rmax r cs : ℝ) (h0 : 0 ≤ rmin) (hlt : rmin < rmax) (hr : 0 < r) (hrm : r < rmax) :
    (term m n rmin rmax r cs : ℝ) = Abel (indicator (Ico rmin rmax) (fun R => R ^ m * (r * cs / R) ^ n)) r := by
  -- at the lower limit `ρ = max(r, r_min)` the code's `z` is the half-chord of `r_min`
  obtain ⟨hlo, hzlo⟩ : r ≤ (if r < rmin then rmin else r) ∧
      Real.sqrt ((if r < rmin then rmin else r) * (if r < rmin then rmin else r) - r * r) = hc (rmin ^ 2 - r ^ 2) := by
    split_ifs with h
    · exact ⟨h.le, sqrt_chord rmin r⟩
    · exact ⟨le_rfl, by rw [sub_self, Real.sqrt_zero, hc_sq_sub_of_le h0 (not_lt.mp h)]⟩
  -- the integrand along the line of sight
  have hint : ∀ z, los r z ^ m * (r * cs / los r z) ^ n = r ^ m * cs ^ n * fr r z ^ ((n : ℤ) - m) := fun z => by
    have hf := (fr_pos hr z).ne'
    -- `ρ f = r` and `r cos θ / ρ = f cos θ`
    rw [zpow_sub₀ hf, zpow_natCast, zpow_natCast, ← mul_div_assoc, eq_div_iff (pow_ne_zero m hf), mul_right_comm, ← mul_pow, fr,
      mul_div_cancel₀ _ (los_pos_of_pos hr z).ne', mul_div_right_comm, mul_pow]
    ring
  -- the code's difference of antiderivatives is the integral between the half-chords
  rw [abel_indicator_Ico _ r h0 hlt.le, intervalIntegral.integral_congr fun z _ => hint z, intervalIntegral.integral_const_mul, ← Fz_sub hr, ← hzlo, ← sqrt_chord rmax r, term, Fk_closed hr hrm.le,
    Fk_closed hr hlo, distr_pow_eq, distr_pow_eq, Nat.cast_ofNat]
  ring

/-- **on the axis** (`r = 0`, excluded above): the code adds `2 (r_maxᵏ − r_minᵏ)/k`, `k = m + 1`, for the isotropic terms (`n = 0`) only —
    the line-of-sight integral of `Rᵐ` through the centre; terms with `n ≥ 1` vanish there -/
theorem spolynomial_axis_value (m : ℕ) (rmin rmax : ℝ) (h0 : 0 ≤ rmin) (hle : rmin ≤ rmax) :
    Abel (indicator (Ico rmin rmax) (fun R => R ^ m)) 0 = 2 * (rmax ^ (m + 1) - rmin ^ (m + 1)) / ((m : ℝ) + 1) := by
  rw [abel_indicator_Ico_axis _ h0 hle, integral_pow]; ring

theorem spolynomial_axis_zero (m n : ℕ) (hn : 1 ≤ n) (rmin rmax cs : ℝ) :
    Abel (indicator (Ico rmin rmax) (fun R => R ^ m * (0 * cs / R) ^ n)) 0 = 0 :=
  abel_eq_zero_of_support (R := 0) (fun R _ => indicator_apply_eq_zero.mpr fun _ => by
    rw [zero_mul, zero_div, zero_pow (Nat.one_le_iff_ne_zero.mp hn), mul_zero]) le_rfl

/-- non-vacuity: the term `r² cos θ` on `[1, 3)` seen at `r = 2`, `cos = 1/2` -/
example : (term 2 1 1 3 2 (1 / 2) : ℝ) = Abel (indicator (Ico 1 3) (fun R => R ^ 2 * (2 * (1 / 2) / R) ^ 1)) 2 :=
  spolynomial_term_abel 2 1 1 3 2 (1 / 2) (by norm_num) (by norm_num) (by norm_num) (by norm_num)

end PyAbel.C10
