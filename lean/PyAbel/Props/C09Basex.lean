/-
C09 — the BASEX projected basis (abel/basex.py `_bs_basex`): the series the code sums for χ_k is the Abel integral of its basis function
ρ_k(r) = (e/k²)^{k²} (r/σ)^{2k²} exp(−(r/σ)²), for every k, σ > 0 and distance x ≥ 0 — binomial expansion of (x² + z²)^{k²} and the Gaussian
moments ∫₀^∞ z^{2m} e^{−z²} dz = Γ(m + ½)/2 (Mathlib).  The log-Gamma tables of the code are finite products here (`lnfact`, `lnhalf`).
Not proved: the two shoulders of the code (terms beyond ± 9(u + 2) of the largest one are dropped; χ_k = 0 for u > k + 8) — the dropped part
is measured against quadrature by the check.
-/
import PyAbel.Lemmas.AbelLinear
import PyAbel.Lemmas.RealInst
import PyAbel.Model.Basex
import Mathlib.MeasureTheory.Integral.Gamma
import Mathlib.Analysis.SpecialFunctions.Gaussian.GaussianIntegral
import Mathlib.Analysis.SpecialFunctions.Gamma.Basic
open MeasureTheory Set
namespace PyAbel.C09
open PyAbel PyAbel.Basex

theorem exp_lnfact (n : ℕ) : Real.exp (lnfact n : ℝ) = (n.factorial : ℝ) := by
  induction n with
  | zero => rw [lnfact, Real.exp_zero, Nat.factorial_zero, Nat.cast_one]
  | succ n ih =>
    rw [lnfact, log_real, Real.exp_add, ih, Real.exp_log (by positivity), Nat.factorial_succ, Nat.cast_mul, mul_comm]

theorem exp_lnhalf (n : ℕ) : Real.exp (lnhalf n : ℝ) = Real.Gamma ((n : ℝ) + 1 / 2) := by
  induction n with
  | zero =>
    rw [lnhalf, log_real, sqrt_real, pi_real, Real.exp_log (Real.sqrt_pos.mpr Real.pi_pos), Nat.cast_zero, zero_add,
      Real.Gamma_one_half_eq]
  | succ n ih =>
    -- `Γ(s + 1) = s Γ(s)` at `s = n + ½`
    rw [lnhalf, log_real, Real.exp_add, ih, Real.exp_log (by positivity), Nat.cast_succ n, add_right_comm,
      Real.Gamma_add_one (by positivity)]
    push_cast; ring

/-- `exp G[l] = C(K, l) Γ(K − l + ½)` -/
theorem exp_Gt (K l : ℕ) (hl : l ≤ K) :
    Real.exp (Gt lnfact lnhalf K l : ℝ) = (K.choose l : ℝ) * Real.Gamma (((K - l : ℕ) : ℝ) + 1 / 2) := by
  unfold Gt
  rw [Real.exp_sub, Real.exp_sub, Real.exp_sub, exp_lnfact, exp_lnfact, exp_lnfact, exp_lnhalf, Nat.cast_choose ℝ hl,
    div_div_eq_mul_div]
  ring

/-- the integrand of the Gaussian moments as Mathlib's Gamma integrals have it -/
theorem gaussian_rpow (m : ℕ) (z : ℝ) :
    z ^ (2 * m) * Real.exp (-(z ^ 2)) = z ^ (2 * (m : ℝ)) * Real.exp (-z ^ (2 : ℝ)) := by
  rw [Real.rpow_two, ← Real.rpow_natCast, Nat.cast_mul, Nat.cast_ofNat]

/-- Gaussian moments on the half line: `∫₀^∞ z^{2m} e^{−z²} dz = Γ(m + ½)/2` -/
theorem gaussian_moment (m : ℕ) : ∫ z in Ioi (0 : ℝ), z ^ (2 * m) * Real.exp (-(z ^ 2)) = Real.Gamma ((m : ℝ) + 1 / 2) / 2 := by
  rw [setIntegral_congr_fun measurableSet_Ioi (fun z _ => gaussian_rpow m z),
    integral_rpow_mul_exp_neg_rpow (p := 2) (q := 2 * (m : ℝ)) two_pos (neg_one_lt_zero.trans_le (mul_nonneg zero_le_two m.cast_nonneg)),
    add_div, mul_div_cancel_left₀ _ two_ne_zero, one_div, div_eq_inv_mul]

theorem gaussian_moment_integrable (m : ℕ) : IntegrableOn (fun z : ℝ => z ^ (2 * m) * Real.exp (-(z ^ 2))) (Ioi 0) :=
  (integrableOn_rpow_mul_exp_neg_rpow (p := 2) (s := 2 * (m : ℝ)) (neg_one_lt_zero.trans_le (mul_nonneg zero_le_two m.cast_nonneg)) two_pos).congr_fun
    (fun z _ => (gaussian_rpow m z).symm) measurableSet_Ioi

/-- **BASEX basis functions**: the Abel integral of `ρ(r) = r^{2K} e^{−r²}` (the unnormalised basis function of index `k`, `K = k²`, in
    units of σ) is `e^{−x²} Σ_{l ≤ K} C(K, l) x^{2l} Γ(K − l + ½)` — the series `_bs_basex` sums (binomial theorem and the Gaussian
    moments) -/
theorem abel_basex_rho (K : ℕ) (x : ℝ) :
    Abel (fun r => (r ^ 2) ^ K * Real.exp (-(r ^ 2))) x
      = Real.exp (-(x ^ 2)) * ∑ l ∈ Finset.range (K + 1), (K.choose l : ℝ) * (x ^ 2) ^ l * Real.Gamma (((K - l : ℕ) : ℝ) + 1 / 2) := by
  unfold Abel
  -- binomial expansion of `(x² + z²)^K` under the integral, then the Gaussian moments term by term
  rw [setIntegral_congr_fun (g := fun z => ∑ l ∈ Finset.range (K + 1),
      ((K.choose l : ℝ) * (x ^ 2) ^ l * Real.exp (-(x ^ 2))) * (z ^ (2 * (K - l)) * Real.exp (-(z ^ 2)))) measurableSet_Ioi ?_,
    integral_finsetSum _ fun l _ => (gaussian_moment_integrable (K - l)).const_mul _]
  · simp only [integral_const_mul, gaussian_moment, Finset.mul_sum]
    exact Finset.sum_congr rfl fun l _ => by ring
  intro z _
  beta_reduce
  rw [Real.sq_sqrt (by positivity), add_pow, neg_add, Real.exp_add, Finset.sum_mul]
  exact Finset.sum_congr rfl fun l _ => by rw [pow_mul]; ring

theorem sumRange_eq_sum (n : ℕ) (f : ℕ → ℝ) : sumRange n f = ∑ i ∈ Finset.range n, f i :=
  PyAbel.sumRange_eq_sum n f

/-- one coded term of the series, for real arguments: `(e/K)^K e^{−u²} C(K, l) Γ(K − l + ½) (u²)^l` -/
theorem chiTerm_real (K l : ℕ) (hl : l ≤ K) (u2 : ℝ) (hu : 0 < u2) :
    (chiTerm K u2 l : ℝ) = Real.exp (ek K : ℝ) * (Real.exp (-u2) * ((K.choose l : ℝ) * u2 ^ l * Real.Gamma (((K - l : ℕ) : ℝ) + 1 / 2))) := by
  unfold chiTerm chiTermT
  simp only [exp_real, log_real]
  rw [sub_eq_add_neg, Real.exp_add, Real.exp_add, Real.exp_add, exp_Gt K l hl, Real.exp_mul, Real.exp_log hu, Real.rpow_natCast]
  ring

/-- **BASEX, the series for χ_k is the Abel integral of ρ_k** (reduced units): for every `K = k² ≥ 0` and `u > 0`, the whole sum
    `Σ_{l=0}^{K} exp(ek − u² + G[l] + l ln u²)` is `2 ∫₀^∞ ρ(√(u² + t²)) dt` with `ρ(r) = (e/K)^K r^{2K} e^{−r²}` -/
theorem basex_chiFull_eq_abel (K : ℕ) (u : ℝ) (hu : 0 < u) :
    (chiFull K (u ^ 2) : ℝ) = Abel (fun r => Real.exp (ek K : ℝ) * ((r ^ 2) ^ K * Real.exp (-(r ^ 2)))) u := by
  rw [abel_const_mul, abel_basex_rho]
  unfold chiFull chiRange chiRangeT
  rw [sumRange_eq_sum, Nat.sub_zero, Finset.mul_sum, Finset.mul_sum]
  refine Finset.sum_congr rfl fun l hl => ?_
  rw [Nat.zero_add, ← chiTerm, chiTerm_real K l (Nat.lt_succ_iff.mp (Finset.mem_range.mp hl)) (u ^ 2) (by positivity)]

/-- … and on the axis: `M[0, k] = exp(ek + G[0])` is the integral through the centre -/
theorem basex_chiAxis_eq_abel (K : ℕ) :
    (chiAxis K : ℝ) = Abel (fun r => Real.exp (ek K : ℝ) * ((r ^ 2) ^ K * Real.exp (-(r ^ 2)))) 0 := by
  rw [abel_const_mul, abel_basex_rho]
  unfold chiAxis chiAxisT
  simp only [exp_real]
  rw [Real.exp_add, exp_Gt K 0 (Nat.zero_le K), Finset.sum_eq_single_of_mem 0 (Finset.mem_range.mpr K.succ_pos)]
  · simp
  · intro l _ hl0
    rw [zero_pow two_ne_zero, zero_pow hl0, mul_zero, zero_mul]

/-- stretching the source by `σ` stretches the projection and scales it by `σ` -/
theorem abel_scale (f : ℝ → ℝ) (σ x : ℝ) (hσ : 0 < σ) : Abel (fun r => f (r / σ)) x = σ * Abel f (x / σ) := by
  unfold Abel
  have e : ∀ t ∈ Ioi (0 : ℝ), f (Real.sqrt (x ^ 2 + (σ * t) ^ 2) / σ) = f (Real.sqrt ((x / σ) ^ 2 + t ^ 2)) := by
    intro t _
    rw [div_pow, ← mul_div_cancel_left₀ (t ^ 2) (pow_ne_zero 2 hσ.ne'), ← add_div, ← mul_pow, Real.sqrt_div' _ (sq_nonneg σ),
      Real.sqrt_sq hσ.le]
  -- substitute `z = σ t`
  rw [← setIntegral_congr_fun measurableSet_Ioi e, integral_comp_mul_left_Ioi (fun z => f (Real.sqrt (x ^ 2 + z ^ 2) / σ)) 0 hσ,
    mul_zero, smul_eq_mul, mul_left_comm, mul_inv_cancel_left₀ hσ.ne']

/-- the coded basis function `exp(ek + ln(u)·2K − u²)` (0 on the axis) is `(e/K)^K u^{2K} e^{−u²}` for `K ≥ 1` -/
theorem rho_real (K : ℕ) (hK : 1 ≤ K) (u : ℝ) (hu : 0 ≤ u) :
    (rho K u : ℝ) = Real.exp (ek K : ℝ) * ((u ^ 2) ^ K * Real.exp (-(u ^ 2))) := by
  unfold rho
  rcases hu.eq_or_lt with rfl | hpos
  · rw [if_pos rfl, zero_pow two_ne_zero, zero_pow (Nat.pos_iff_ne_zero.mp hK), zero_mul, mul_zero]
  · simp only [if_neg hpos.ne', exp_real, log_real]
    rw [sub_eq_add_neg, add_assoc, Real.exp_add, Real.exp_add, Real.exp_mul, Real.exp_log hpos, Real.rpow_natCast, pow_mul, sq u]

/-- the coded basis function of order `K ≥ 1` and width `σ` projects to `σ` times the projection of `ρ_k` in reduced units -/
theorem abel_rho_scaled (K : ℕ) (hK : 1 ≤ K) (σ x : ℝ) (hσ : 0 < σ) :
    Abel (fun r => (rho K (r / σ) : ℝ)) x = σ * Abel (fun r => Real.exp (ek K : ℝ) * ((r ^ 2) ^ K * Real.exp (-(r ^ 2)))) (x / σ) := by
  rw [← abel_scale _ σ x hσ]
  exact abel_congr_nonneg x fun r hr => rho_real K hK (r / σ) (by positivity)

/-- **BASEX projected basis, off the axis**: for every basis index `k ≥ 1`, width `σ > 0` and distance `x > 0`, `σ` times the whole series
    at `u = x/σ` is the Abel integral at `x` of the basis function `r ↦ ρ_k(r/σ)` -/
theorem basex_M_eq_abel (k : ℕ) (hk : 1 ≤ k) (σ x : ℝ) (hσ : 0 < σ) (hx : 0 < x) :
    σ * (chiFull (k * k) ((x / σ) ^ 2) : ℝ) = Abel (fun r => (rho (k * k) (r / σ) : ℝ)) x := by
  rw [basex_chiFull_eq_abel (k * k) (x / σ) (by positivity), abel_rho_scaled _ (Nat.mul_pos hk hk) σ x hσ]

/-- … on the axis -/
theorem basex_M_axis_eq_abel (k : ℕ) (hk : 1 ≤ k) (σ : ℝ) (hσ : 0 < σ) :
    σ * (chiAxis (k * k) : ℝ) = Abel (fun r => (rho (k * k) (r / σ) : ℝ)) 0 := by
  rw [basex_chiAxis_eq_abel (k * k), abel_rho_scaled _ (Nat.mul_pos hk hk) σ 0 hσ, zero_div]

/-- … and the first basis function, the Gaussian: `M[i, 0] = σ exp(gammaln(½) − u²)` is the Abel integral of `exp(−(r/σ)²)` -/
theorem basex_M_zero_eq_abel (σ x : ℝ) (hσ : 0 < σ) :
    σ * Real.exp ((lnhalf 0 : ℝ) - (x / σ) ^ 2) = Abel (fun r => Real.exp (-((r / σ) ^ 2))) x := by
  have h := abel_basex_rho 0 (x / σ)
  simp only [pow_zero, one_mul, Finset.range_one, Finset.sum_singleton, Nat.choose_self, Nat.cast_one, Nat.sub_self, Nat.cast_zero, zero_add, mul_one] at h
  rw [abel_scale (fun r => Real.exp (-(r ^ 2))) σ x hσ, h, sub_eq_add_neg, Real.exp_add, exp_lnhalf]
  simp only [Nat.cast_zero, zero_add]
  ring
end PyAbel.C09
