/-
C15 — distribution representations agree and respect image symmetries.

Models: Model/Representations.lean (cos^n ↔ cos^n sin^m ↔ Legendre, exact rationals) and the algebraic core of
Model/Distributions.lean (weight scaling, zero-weight pixels).
-/
import PyAbel.Model.Representations
import PyAbel.Props.C14
import PyAbel.Lemmas.ModelArith
import Mathlib.Data.Nat.Choose.Sum
import Mathlib.Algebra.BigOperators.Intervals
import Mathlib.Tactic.Ring

set_option linter.unusedSectionVars false

namespace PyAbel.C15
open PyAbel.Repr PyAbel.Distr Finset

/-! ### 1. cos^n ↔ cos^n·sin^m : the flipped Pascal matrix re-expands every cos power with (cos² + sin²) = 1

`c` = cos²θ, `s` = sin²θ, `c + s = 1`.  `a j` multiplies c^j (even powers) — for the odd powers the same identity
holds after factoring out one cos θ, with the matrix of one size less, which is what the code uses. -/

/-- column `j` of the flipped Pascal matrix against `cⁱ s^(N−1−i)`: the binomial expansion of `cʲ (c + s)^(N−1−j)` -/
theorem cossin_column {R : Type} [CommRing R] (N j : ℕ) (hj : j < N) (c s : R) :
    ∑ i ∈ range N, (cossinMatrix N i j : R) * (c ^ i * s ^ (N - 1 - i)) = c ^ j * (c + s) ^ (N - 1 - j) := by
  obtain ⟨n, rfl⟩ := Nat.exists_eq_add_of_lt hj
  -- `j + (n + 1) - 1` evaluates to `j + n`
  have e0 : j + (n + 1) - 1 - j = n := Nat.add_sub_cancel_left j n
  rw [Nat.add_assoc, e0, sum_range_add,
    sum_eq_zero fun i hi => by simp [cossinMatrix, not_le.mpr (mem_range.mp hi)], zero_add, add_pow, mul_sum]
  refine sum_congr rfl fun t ht => ?_
  have e : j + (n + 1) - 1 - (j + t) = n - t := Nat.add_sub_add_left j n t
  simp only [cossinMatrix, Nat.le_add_right, if_true, Nat.add_sub_cancel_left, e0, e, choose_eq_choose, pow_add]
  ring

theorem cossin_same_function_all {R : Type} [CommRing R] (N : ℕ) (a : ℕ → R) (c s : R) (h : c + s = 1) :
    ∑ i ∈ range N, (∑ j ∈ range N, (cossinMatrix N i j : R) * a j) * c ^ i * s ^ (N - 1 - i)
      = ∑ j ∈ range N, a j * c ^ j := by
  simp only [sum_mul]
  rw [sum_comm]
  refine sum_congr rfl fun j hj => ?_
  have := cossin_column N j (mem_range.mp hj) c s
  rw [h, one_pow, mul_one] at this
  rw [← this, mul_sum]
  exact sum_congr rfl fun i _ => by ring

theorem cossin_same_function {R : Type} [CommRing R] (N : ℕ) (hN : N ≤ 5) (a : ℕ → R) (c s : R) (h : c + s = 1) :
    ∑ i ∈ range N, (∑ j ∈ range N, (cossinMatrix N i j : R) * a j) * c ^ i * s ^ (N - 1 - i)
      = ∑ j ∈ range N, a j * c ^ j :=
  cossin_same_function_all N a c s h

/-! ### 2. cos^n ↔ Legendre: the conversion matrix is the exact inverse of the Legendre coefficient matrix
(orders 0…8, with and without odd terms): Σ_i harm_i P_i(x) and Σ_k cn_k x^k are the same polynomial. -/

theorem harmonics_table_even :
    ((List.range 6).all fun t => matMul (legendreMatrix false t) (harmonicsMatrix false t) == identity t) = true := by
  decide +kernel

theorem harmonics_table_odd :
    ((List.range 10).all fun t => matMul (legendreMatrix true t) (harmonicsMatrix true t) == identity t) = true := by
  decide +kernel

/-- the recurrence-defined polynomials are the familiar ones (spot values; non-vacuity of the table) -/
theorem legendre_values : legendre 2 = [-1 / 2, 0, 3 / 2] ∧ legendre 3 = [0, -3 / 2, 0, 5 / 2]
    ∧ legendre 4 = [3 / 8, 0, -15 / 4, 0, 35 / 8] := by decide +kernel

/-! ### 3. invariance under positive weight scaling and under the values of zero-weight pixels -/

variable {K : Type} [Field K] [DecidableEq K]

def scaleContrib (l : K) (p : Contrib K) : Contrib K := ⟨l * p.ω, p.t, l * p.v⟩

theorem weightMoment_scale (l : K) (ps : List (Contrib K)) (k : ℕ) :
    weightMoment (ps.map (scaleContrib l)) k = l * weightMoment ps k :=
  C14.moment_map Contrib.ω _ l k (fun _ => mul_assoc _ _ _) ps

theorem dataMoment_scale (l : K) (ps : List (Contrib K)) (n : ℕ) :
    dataMoment (ps.map (scaleContrib l)) n = l * dataMoment ps n :=
  C14.moment_map Contrib.v _ l n (fun _ => mul_assoc _ _ _) ps

/-- multiplying all weights by a non-zero constant does not change the result -/
theorem weight_scaling_1 (l : K) (hl : l ≠ 0) (ps : List (Contrib K)) :
    solveBin 1 (ps.map (scaleContrib l)) = solveBin 1 ps := by
  simp only [solveBin, weightMoment_scale, dataMoment_scale, mul_eq_zero, hl, false_or, show (One.one : K) = 1 from rfl,
    one_div_mul_eq_div, mul_div_mul_left _ _ hl]

theorem weight_scaling_2 (l : K) (hl : l ≠ 0) (ps : List (Contrib K)) :
    solveBin 2 (ps.map (scaleContrib l)) = solveBin 2 ps := by
  have h := C14.solve2_equivariant l 1 l hl one_ne_zero
  simp only [one_pow, mul_one, div_self hl, one_mul] at h
  simp only [solveBin, weightMoment_scale, dataMoment_scale, h]

/-- a pixel of zero weight contributes nothing, whatever the image holds there -/
theorem zero_weight_pixel (ps : List (Contrib K)) (t : K) (N : ℕ) :
    solveBin N (ps ++ [⟨0, t, 0⟩]) = solveBin N ps := by
  have h := C14.moments_perm _ _ (List.perm_append_singleton ⟨0, t, 0⟩ ps)
  have h0 := C14.moments_drop_zero ps t
  unfold solveBin
  simp only [(h _).1, (h _).2, (h0 _).1, (h0 _).2]

end PyAbel.C15
