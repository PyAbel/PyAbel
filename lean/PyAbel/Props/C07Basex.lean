/-
C07 — the in-memory transform caches of `basex.get_bs_cached` (Model/BasexCache.lean): after any history of requests (other
sizes, basis widths, regularisations, corrections, pixel sizes, either direction) and cleanups, a call hands out the matrix made
from exactly the basis `[n, sigma]` and the parameters `[reg, correction, dr]` it names.
-/
import PyAbel.Model.BasexCache

namespace PyAbel.C07B
open PyAbel.BxCache

variable {K P : Type} [DecidableEq K] [DecidableEq P]

/-- a keyed matrix is the one its key and the basis in memory say -/
def Inv (s : St K P) : Prop :=
  (∀ p, s.trfPrm = some p → ∃ k, s.bsPrm = some k ∧ s.trf = some (k, p)) ∧
  (∀ p, s.triPrm = some p → ∃ k, s.bsPrm = some k ∧ s.tri = some (k, p))

omit [DecidableEq K] [DecidableEq P] in
theorem inv_init : Inv (St.init : St K P) := ⟨nofun, nofun⟩

omit [DecidableEq K] [DecidableEq P] in
theorem inv_cleanup (s : St K P) (sel : Select) (h : Inv s) : Inv (cleanup s sel) := by
  cases sel
  · exact ⟨nofun, nofun⟩
  · exact ⟨nofun, h.2⟩
  · exact ⟨h.1, nofun⟩

/-- one call keeps the invariant and answers with the requested matrix -/
theorem call_spec (s : St K P) (q : Req K P) (h : Inv s) :
    Inv (call s q).1 ∧ (call s q).2 = some (q.k, q.p) := by
  unfold call
  extract_lets s1
  -- the first statement keeps the invariant and puts the requested basis in force
  have h1 : Inv s1 ∧ s1.bsPrm = some q.k := by
    unfold s1; split
    · exact ⟨h, ‹_›⟩
    · exact ⟨⟨nofun, nofun⟩, rfl⟩
  obtain ⟨⟨i1, i2⟩, hb⟩ := h1
  cases hf : q.forward with
  | true =>
    rw [if_pos rfl]
    by_cases hp : s1.trfPrm = some q.p
    · rw [if_pos hp]
      obtain ⟨k, hk, ht⟩ := i1 _ hp
      rw [hb] at hk; cases hk
      exact ⟨⟨i1, i2⟩, ht⟩
    · rw [if_neg hp]
      exact ⟨⟨fun _ e => by cases e; exact ⟨q.k, hb, rfl⟩, i2⟩, rfl⟩
  | false =>
    rw [if_neg Bool.false_ne_true]
    by_cases hp : s1.triPrm = some q.p
    · rw [if_pos hp]
      obtain ⟨k, hk, ht⟩ := i2 _ hp
      rw [hb] at hk; cases hk
      exact ⟨⟨i1, i2⟩, ht⟩
    · rw [if_neg hp]
      exact ⟨⟨i1, fun _ e => by cases e; exact ⟨q.k, hb, rfl⟩⟩, rfl⟩

theorem inv_run (s : St K P) (ops : List (Op K P)) (h : Inv s) : Inv (run s ops) := by
  refine List.foldlRecOn ops _ h fun s hs op _ => ?_
  cases op with
  | call q => exact (call_spec s q hs).1
  | cleanup sel => exact inv_cleanup s sel hs

/-- **cache transparency along any history** -/
theorem call_returns_requested (ops : List (Op K P)) (q : Req K P) :
    (call (run (St.init : St K P) ops) q).2 = some (q.k, q.p) :=
  (call_spec _ q (inv_run _ ops inv_init)).2

/-- non-vacuity: a basis change unkeys both matrices; the stale matrix object is still there but is not handed out -/
example :
    let s1 := (call (St.init : St Nat Nat) ⟨5, true, 1⟩).1
    let r2 := call s1 ⟨6, true, 1⟩
    s1.trf = some (5, 1) ∧ r2.2 = some (6, 1) := by decide

end PyAbel.C07B
