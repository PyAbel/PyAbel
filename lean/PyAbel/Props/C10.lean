/-
C10 — polynomial classes: exact functions and the algebra of their coefficients.

Proved here: the shift/stretch coefficient transform (every degree, every r₀, every s ≠ 0 of either sign);
`Angular` products are polynomial products; `cossin(m, n)` holds the coefficients of x^m (1 − x²)^{n/2} (every even `n`).
`Polynomial.abel` — the coefficient recursion C and the Horner sum of `a(k)` — is the Abel integral of `Polynomial.func`
(`polynomial_abel`, every degree, every piece, every sample inside the outer radius), by the reduction formula of ∫ rᵏ dy.
`SPolynomial` terms and the piecewise classes are in C10SPoly and C10Adjoin; ApproxGaussian's tolerance remains tied to quadrature
by the check.
-/
import PyAbel.Model.Polynomial
import PyAbel.Lemmas.PolyAbel
import PyAbel.Lemmas.ModelArith
import Mathlib.Data.Nat.Choose.Sum
import Mathlib.Algebra.BigOperators.Intervals
import Mathlib.Tactic.Ring
import Mathlib.Tactic.FieldSimp

namespace PyAbel.C10
open PyAbel.Poly Finset

variable {K : Type} [Field K]

theorem choose_eq (n k : ℕ) : PyAbel.Repr.choose n k = Nat.choose n k :=
  PyAbel.Repr.choose_eq_choose n k

theorem evalN_eq (N : ℕ) (c : ℕ → K) (x : K) : evalN N c x = ∑ k ∈ range N, c k * x ^ k := by
  simp only [evalN, sumRange_eq_sum, distr_pow_eq]

/-- **shift and stretch**: the transformed coefficients are those of `p((r − r₀)/s)` -/
theorem shift_stretch (N : ℕ) (c : ℕ → K) (r0 s r : K) :
    evalN N (ssCoeff N c r0 s) r = evalN N c ((r - r0) / s) := by
  simp only [evalN_eq, ssCoeff, sumRange_eq_sum, distr_pow_eq, choose_eq, sum_mul]
  rw [sum_comm]
  refine sum_congr rfl fun l hl => ?_
  -- binomial expansion of `(r + (−r₀))^l`; the terms `k > l` of the coded sum are switched off
  rw [div_eq_mul_one_div (r - r0) s, mul_pow, sub_eq_add_neg r r0, ← zero_sub r0, add_pow r, sum_mul, mul_sum,
    ← sum_subset (range_subset_range.mpr (Nat.succ_le_of_lt (mem_range.mp hl))) fun k _ hk => by
      rw [if_neg (fun h => hk (mem_range.mpr (Nat.lt_succ_of_le h))), zero_mul]]
  exact sum_congr rfl fun k hk => by rw [if_pos (Nat.lt_succ_iff.mp (mem_range.mp hk))]; ring

/-- **Angular product** (`np.convolve`) is multiplication of the two cosine polynomials -/
theorem angular_mul (na nb : ℕ) (a b : ℕ → K) (x : K) :
    evalN (na + nb - 1) (convolve na nb a b) x = evalN na a x * evalN nb b x := by
  simp only [evalN_eq, convolve, sumRange_eq_sum, sum_mul]
  rw [sum_comm]
  refine sum_congr rfl fun i hi => ?_
  have hi' := mem_range.mp hi
  -- the terms of the product that hold `a i` are those of the orders `k = i + j`, `j < nb`
  rw [← sum_subset (s₁ := Ico i (i + nb))
      (fun k hk => mem_range.mpr ((mem_Ico.mp hk).2.trans_le (Nat.le_sub_one_of_lt (Nat.add_lt_add_right hi' nb))))
      (fun k _ hk => by rw [if_neg (fun h => hk (mem_Ico.mpr ⟨h.1, (Nat.sub_lt_iff_lt_add' h.1).mp h.2⟩)), zero_mul]),
    sum_Ico_eq_sum_range, Nat.add_sub_cancel_left, mul_sum]
  exact sum_congr rfl fun j hj => by
    rw [Nat.add_sub_cancel_left, if_pos ⟨Nat.le_add_right i j, mem_range.mp hj⟩, pow_add]
    ring

/-- `Angular.cossin(m, n)` for every even sine power `n = 2h`: the binomial expansion of `x^m (1 − x²)^h` -/
theorem cossin_coeffs_all (m h : ℕ) (x : K) :
    ∑ k ∈ range (m + 2 * h + 1), ((cossinCoeff m (2 * h) k : ℤ) : K) * x ^ k = x ^ m * (1 - x ^ 2) ^ h := by
  have hinj : Set.InjOn (fun j => m + 2 * j) (range (h + 1) : Finset ℕ) := fun a _ b _ hab => by
    simpa using hab
  -- only the indices `k = m + 2j`, `j ≤ h`, carry a coefficient
  rw [← sum_subset (s₁ := (range (h + 1)).image fun j => m + 2 * j)
      (fun k hk => by obtain ⟨j, hj, rfl⟩ := mem_image.mp hk; exact mem_range.mpr (by have := mem_range.mp hj; omega))
      (fun k _ hk => by
        rw [cossinCoeff, if_neg, Int.cast_zero, zero_mul]
        rintro ⟨h1, h2, h3⟩
        rw [Nat.mul_div_cancel_left h two_pos] at h3
        exact hk (mem_image.mpr ⟨(k - m) / 2, mem_range.mpr (Nat.lt_succ_of_le h3),
          by rw [Nat.mul_div_cancel' (Nat.dvd_of_mod_eq_zero h2), Nat.add_sub_cancel' h1]⟩)),
    sum_image hinj, sub_eq_neg_add, add_pow, mul_sum]
  refine sum_congr rfl fun j hj => ?_
  -- the coded sign is `(−1)^j`
  have hs : (if j % 2 = 0 then 1 else -1 : ℤ) = (-1) ^ j := by
    rw [neg_one_pow_eq_ite]; exact if_congr Nat.even_iff.symm rfl rfl
  rw [cossinCoeff, Nat.add_sub_cancel_left, Nat.mul_div_cancel_left j two_pos, Nat.mul_div_cancel_left h two_pos,
    if_pos ⟨Nat.le_add_right _ _, Nat.mul_mod_right _ _, Nat.lt_succ_iff.mp (mem_range.mp hj)⟩, choose_eq, one_pow, mul_one, neg_pow,
    pow_add, pow_mul, hs]
  push_cast; ring

/-- `Angular.cossin(m, n)` for the sine powers 0, 2, …, 8: exactly x^m (1 − x²)^{n/2} -/
theorem cossin_coeffs (m h : ℕ) (hh : h ≤ 4) (x : K) :
    ∑ k ∈ range (m + 2 * h + 1), ((cossinCoeff m (2 * h) k : ℤ) : K) * x ^ k = x ^ m * (1 - x ^ 2) ^ h :=
  cossin_coeffs_all m h x

/-! ### `Polynomial.abel` is the Abel transform of `Polynomial.func` -/

section
open PyAbel

/-- `polynomial_abel` up to and including the outer radius, where both sides vanish -/
theorem polynomial_abel_le (N : ℕ) (c : ℕ → ℝ) (rmin rmax x : ℝ) (h0 : 0 ≤ rmin) (hlt : rmin < rmax) (hx : 0 ≤ x) (hxr : x ≤ rmax) :
    polyAbelAt N c rmin rmax x = Abel (fun r => if rmin ≤ r ∧ r < rmax then evalN N c r else 0) x := by
  rw [polyAbelAt_eq N c h0 hlt hx, ite_evalN_eq_sum,
    (abel_sumRange N c (fun k => monoPiece rmin rmax k) x fun k _ => losInt_monoPiece rmin rmax x k h0 hlt.le).1]
  refine sumRange_congr N _ _ fun k _ => ?_
  -- every term of the coded sum is the integral of its monomial between the half-chords: at the upper limit `ρ = r_max`; at the
  -- lower one `ρ = r_min` if the inner radius is met (`x ≤ r_min`), else the line of sight starts at its foot, `z = 0`, `ρ = x`
  rw [abel_monoPiece rmin rmax x k h0 hlt.le, mul_assoc,
    ← abelA_eq_J x (hc_nonneg _) (hc_mono (sub_le_sub_right (pow_le_pow_left₀ h0 hlt.le 2) _)) k, los_hc hx hxr]
  rcases le_or_gt x rmin with h | h
  · rw [los_hc hx h, if_neg (not_lt.mpr h)]
  · rw [if_pos h, hc_sq_sub_of_le h0 h.le, los_zero_arg hx, add_zero]
    simp only [mul_zero]

/-- **`Polynomial(r, r_min, r_max, c).abel` is the Abel integral of its `func`**: for every number of coefficients, every
    coefficient vector, every piece `0 ≤ r_min < r_max` and every sample `0 ≤ x < r_max`, the value the code assembles from the
    recursion `C[k−m+2] = C[k−m]·m/(m−1)`, the differences `(y rᵖ)|` and `ln(r + y)|` is
    `2 ∫ f(√(x² + z²)) dz` with `f = Σ c_k rᵏ` on `[r_min, r_max)` and zero elsewhere. -/
theorem polynomial_abel (N : ℕ) (c : ℕ → ℝ) (rmin rmax x : ℝ) (h0 : 0 ≤ rmin) (hlt : rmin < rmax) (hx : 0 ≤ x) (hxr : x < rmax) :
    polyAbelAt N c rmin rmax x = Abel (fun r => if rmin ≤ r ∧ r < rmax then evalN N c r else 0) x :=
  polynomial_abel_le N c rmin rmax x h0 hlt hx hxr.le

/-- **the whole `Polynomial` object**: with the shift/stretch parameters `r_0`, `s`, the transform the code returns (coefficients
    transformed by the Pascal ⊙ Toeplitz step, then the closed-form integrals) is the Abel integral of
    `p((r − r_0)/s)` on `[r_min, r_max)` — `func` and `abel` are an exact pair for every degree, shift and stretch -/
theorem polynomial_abel_shifted (N : ℕ) (c : ℕ → ℝ) (r0 s rmin rmax x : ℝ) (h0 : 0 ≤ rmin) (hlt : rmin < rmax)
    (hx : 0 ≤ x) (hxr : x < rmax) :
    polyAbelAt N (ssCoeff N c r0 s) rmin rmax x
      = Abel (fun r => if rmin ≤ r ∧ r < rmax then evalN N c ((r - r0) / s) else 0) x := by
  rw [polynomial_abel N _ rmin rmax x h0 hlt hx hxr]
  simp only [shift_stretch]

/-- non-vacuity: the constant piece 1 on [0, 1) seen from the axis projects to the chord 2 -/
example : polyAbelAt 1 (fun _ => (1 : ℝ)) 0 1 0 = 2 := by
  rw [polynomial_abel 1 _ 0 1 0 (le_refl 0) one_pos (le_refl 0) one_pos]
  have e : (fun r : ℝ => if (0 : ℝ) ≤ r ∧ r < 1 then evalN 1 (fun _ => (1 : ℝ)) r else 0) = Set.indicator (Set.Ico 0 1) 1 := by
    funext r
    by_cases h : (0 : ℝ) ≤ r ∧ r < 1
    · rw [if_pos h, Set.indicator_of_mem (show r ∈ Set.Ico (0 : ℝ) 1 from h)]
      simp [evalN, sumRange, Distr.pow]
    · rw [if_neg h, Set.indicator_of_notMem (show r ∉ Set.Ico (0 : ℝ) 1 from h)]
  rw [e, abel_shell 0 1 0 (le_refl 0) zero_le_one]
  norm_num [hc]

end

end PyAbel.C10
