/-
C11 — the shipped polynomial transform pairs (abel/tools/transform_pairs.py, profiles 1, 2, 3, 4, 5, 7) are exact Abel pairs:
for every 0 < x < 1 the coded `projection` expression equals 2∫₀^∞ source(√(x²+z²)) dz, the source being zero outside [0, 1).
Derived from `C10.polynomial_abel` (the closed-form integrals of monomial pieces): the source is one or two polynomial pieces, whose
transform `Polynomial.abel` gives in closed form (`polyAbelAt_eq`; `cubicAbel` for a cubic piece that starts at the axis, and a source
made of two cubics is a sum of two such pieces, `abel_two_cubic_source`); what is left for each profile is an identity between
polynomials in `x`, the half-chords and the logarithms.
-/
import PyAbel.Props.C10
import PyAbel.Model.Profiles

open MeasureTheory Set

namespace PyAbel.C11
open PyAbel PyAbel.Poly PyAbel.Profiles

/-- coefficient vector from a list -/
def cvec (l : List ℝ) : ℕ → ℝ := fun k => l.getD k 0

theorem sqrt0_pos {t : ℝ} (h : 0 < t) : (sqrt0 t : ℝ) = Real.sqrt t := by rw [sqrt0_eq_hc, hc_eq_sqrt]
theorem sqrt0_npos {t : ℝ} (h : ¬ 0 < t) : (sqrt0 t : ℝ) = 0 := by rw [sqrt0_eq_hc, hc_of_nonpos (not_lt.mp h)]
theorem ln0_pos {t : ℝ} (h : 0 < t) : (ln0 t : ℝ) = Real.log t := ln0_eq_log h.le


theorem sqrt0_of_nonneg {t : ℝ} (h : 0 ≤ t) : (sqrt0 t : ℝ) = Real.sqrt t := by rw [sqrt0_eq_hc, hc_eq_sqrt]

/-- a polynomial piece: `Σ c_k rᵏ` on `[r_min, r_max)`, zero elsewhere -/
noncomputable def piece (N : ℕ) (c : ℕ → ℝ) (rmin rmax : ℝ) : ℝ → ℝ :=
  fun r => if rmin ≤ r ∧ r < rmax then evalN N c r else 0

theorem piece_eq_sum (N : ℕ) (c : ℕ → ℝ) (rmin rmax : ℝ) :
    piece N c rmin rmax = fun r => sumRange N fun k => c k * monoPiece rmin rmax k r :=
  ite_evalN_eq_sum N c rmin rmax

theorem losInt_piece (N : ℕ) (c : ℕ → ℝ) (rmin rmax x : ℝ) (h0 : 0 ≤ rmin) (hle : rmin ≤ rmax) : LosInt (piece N c rmin rmax) x := by
  rw [piece_eq_sum]
  exact (abel_sumRange N c (fun k => monoPiece rmin rmax k) x (fun k _ => losInt_monoPiece rmin rmax x k h0 hle)).2

/-- a line of sight that passes outside the piece sees nothing -/
theorem abel_piece_of_ge (N : ℕ) (c : ℕ → ℝ) (rmin rmax x : ℝ) (h0 : 0 ≤ rmin) (hle : rmin ≤ rmax) (hx : rmax ≤ x) :
    Abel (piece N c rmin rmax) x = 0 :=
  abel_eq_zero_of_support (fun _ hr => if_neg fun h => (h.2.trans_le hr).false) hx

/-- `polynomial_abel` in terms of `piece` -/
theorem abel_piece (N : ℕ) (c : ℕ → ℝ) (rmin rmax x : ℝ) (h0 : 0 ≤ rmin) (hlt : rmin < rmax) (hx : 0 ≤ x) (hxr : x < rmax) :
    Abel (piece N c rmin rmax) x = polyAbelAt N c rmin rmax x :=
  (C10.polynomial_abel N c rmin rmax x h0 hlt hx hxr).symm

/-- the sum of two pieces -/
theorem abel_two_pieces (N M : ℕ) (c d : ℕ → ℝ) (r0 r1 r2 x : ℝ) (h0 : 0 ≤ r0) (h01 : r0 ≤ r1) (h12 : r1 ≤ r2) :
    Abel (fun r => piece N c r0 r1 r + piece M d r1 r2 r) x = Abel (piece N c r0 r1) x + Abel (piece M d r1 r2) x :=
  abel_add (losInt_piece N c r0 r1 x h0 h01) (losInt_piece M d r1 r2 x (le_trans h0 h01) h12)


theorem abelA_zero (k : ℕ) (x2 : ℝ) : abelA k x2 (fun _ => (0 : ℝ)) 0 = 0 := by
  unfold abelA
  simp only [mul_zero, sumRange_zero, ite_self, add_zero]

theorem polyAbelAt_rmax (N : ℕ) (c : ℕ → ℝ) (rmin rmax : ℝ) (h0 : 0 ≤ rmin) (hlt : rmin < rmax) :
    polyAbelAt N c rmin rmax rmax = 0 := by
  simp only [polyAbelAt_eq N c h0 hlt (h0.trans hlt.le), if_pos hlt, sub_self, hc_of_nonpos (le_refl 0),
    hc_sq_sub_of_le h0 hlt.le, mul_zero, add_zero, abelA_zero, sumRange_zero]

/-- `polynomial_abel` up to and including the outer radius -/
theorem abel_piece_le (N : ℕ) (c : ℕ → ℝ) (rmin rmax x : ℝ) (h0 : 0 ≤ rmin) (hlt : rmin < rmax) (hx : 0 ≤ x) (hxr : x ≤ rmax) :
    Abel (piece N c rmin rmax) x = polyAbelAt N c rmin rmax x :=
  (C10.polynomial_abel_le N c rmin rmax x h0 hlt hx hxr).symm

theorem ite_eq_piece {s : ℝ → ℝ} {N : ℕ} {c : ℕ → ℝ} {r0 r1 : ℝ} (h : ∀ r, r0 ≤ r → r < r1 → s r = evalN N c r) :
    (fun r => if r0 ≤ r ∧ r < r1 then s r else 0) = piece N c r0 r1 :=
  funext fun r => ite_congr rfl (fun hr => h r hr.1 hr.2) fun _ => rfl

theorem evalN_cubic (a b c d r : ℝ) : evalN 4 (cvec [a, b, c, d]) r = a + b * r + c * r ^ 2 + d * r ^ 3 := by
  simp only [evalN, sumRange, cvec, List.getD_cons_zero, List.getD_cons_succ, distr_pow_eq]
  ring

/-- twice the line-of-sight integral of `a + b r + c r² + d r³` from the foot of the line of sight at distance `x` out to radius
    `R ≥ x`: the difference between the two ends of `y (2a + b r + ⅔ c r² + ½ d r³ + (4⁄3 c + ¾ d r) x²) + (b + ¾ d x²) x² ln(r + y)`,
    `y` the half-chord at radius `r`.  On the axis the factor `x²` switches the logarithms off. -/
noncomputable def cubicAbel (a b c d R x : ℝ) : ℝ :=
  hc (R ^ 2 - x ^ 2) * (2 * a + b * R + 2 / 3 * c * R ^ 2 + 1 / 2 * d * R ^ 3 + (4 / 3 * c + 3 / 4 * d * R) * x ^ 2)
    + (b + 3 / 4 * d * x ^ 2) * x ^ 2 * (Real.log (R + hc (R ^ 2 - x ^ 2)) - Real.log x)

theorem polyAbelAt_cubicPiece (a b c d : ℝ) {R x : ℝ} (hR : 0 < R) (hx : 0 ≤ x) :
    polyAbelAt 4 (cvec [a, b, c, d]) 0 R x = cubicAbel a b c d R x := by
  have hlo : (if 0 < x then x else 0 + hc (0 ^ 2 - x ^ 2)) = x := by
    rw [hc_sq_sub_of_le le_rfl hx, add_zero]
    exact ite_eq_left_iff.mpr fun h => le_antisymm hx (not_lt.mp h)
  rw [polyAbelAt_eq 4 _ le_rfl hR hx, hlo, hc_sq_sub_of_le le_rfl hx, cubicAbel]
  simp only [sumRange, abelA_reduction 0, abelA_reduction 1, abelA_deg_zero, abelA_deg_one, cvec, List.getD_cons_zero,
    List.getD_cons_succ, Nat.cast_zero, Nat.cast_one]
  ring

theorem abel_piece_cubic (a b c d : ℝ) {R x : ℝ} (hR : 0 < R) (h0 : 0 ≤ x) (hx : x ≤ R) :
    Abel (piece 4 (cvec [a, b, c, d]) 0 R) x = cubicAbel a b c d R x :=
  (abel_piece_le 4 _ 0 R x le_rfl hR h0 hx).trans (polyAbelAt_cubicPiece a b c d hR h0)

/-- a source that is one cubic on `[0, r1)`, another on `(r1, r2)` and zero from `r2` on is, away from the break, the outer cubic on
    `[0, r2)` plus the difference of the two on `[0, r1)`; its value at the break is not seen by the line-of-sight integral -/
theorem abel_two_cubic_source {s : ℝ → ℝ} {a b c d a' b' c' d' r1 r2 x : ℝ} (h1 : 0 < r1) (h12 : r1 < r2)
    (hl : ∀ r, 0 ≤ r → r < r1 → s r = evalN 4 (cvec [a, b, c, d]) r)
    (hr : ∀ r, r1 < r → r < r2 → s r = evalN 4 (cvec [a', b', c', d']) r) (h0 : 0 < x) (hx : x < r2) :
    Abel (fun r => if 0 ≤ r ∧ r < r2 then s r else 0) x
      = cubicAbel a' b' c' d' r2 x + if x ≤ r1 then cubicAbel (a - a') (b - b') (c - c') (d - d') r1 x else 0 := by
  have hsrc : ∀ r, r ≠ r1 → (if 0 ≤ r ∧ r < r2 then s r else 0)
      = piece 4 (cvec [a', b', c', d']) 0 r2 r + piece 4 (cvec [a - a', b - b', c - c', d - d']) 0 r1 r := by
    intro r hne
    unfold piece
    rcases lt_or_gt_of_ne hne with h | h
    · by_cases hr0 : 0 ≤ r
      · rw [if_pos ⟨hr0, h.trans h12⟩, if_pos ⟨hr0, h.trans h12⟩, if_pos ⟨hr0, h⟩, hl r hr0 h, evalN_cubic, evalN_cubic,
          evalN_cubic]
        ring
      · simp only [hr0, false_and, if_false, add_zero]
    · rw [if_neg (fun h' : 0 ≤ r ∧ r < r1 => h.not_gt h'.2), add_zero]
      exact ite_congr rfl (fun h' => hr r h h'.2) fun _ => rfl
  rw [abel_congr_except r1 x hsrc, abel_add (losInt_piece 4 _ 0 r2 x le_rfl (h1.trans h12).le) (losInt_piece 4 _ 0 r1 x le_rfl h1.le),
    abel_piece_cubic _ _ _ _ (h1.trans h12) h0.le hx.le]
  split_ifs with h
  · rw [abel_piece_cubic _ _ _ _ h1 h0.le h]
  · rw [abel_piece_of_ge 4 _ 0 r1 x le_rfl h1.le (not_le.mp h).le]

/-- `a(n, r)` of transform_pairs.py is the half-chord at radius `n` -/
theorem a_eq_hc (m r : ℝ) : Profiles.a m r = hc (m ^ 2 - r ^ 2) := by
  rw [hc_eq_sqrt, sq, sq]; rfl

/-- transform_pairs.py writes the two logarithms of `cubicAbel` as one, `ln((R + a)/r)` -/
theorem log_add_hc_div {R z : ℝ} (hR : 0 < R) (hz : 0 < z) (t : ℝ) :
    Real.log ((R + hc t) / z) = Real.log (R + hc t) - Real.log z :=
  Real.log_div (add_pos_of_pos_of_nonneg hR (hc_nonneg t)).ne' hz.ne'

theorem profile2_pair (x : ℝ) (h0 : 0 < x) (h1 : x < 1) :
    proj2 x = Abel (fun r => if 0 ≤ r ∧ r < 1 then source2 r else 0) x := by
  have hs : ∀ r : ℝ, 0 ≤ r → r < 1 → source2 r = evalN 4 (cvec [1, 0, -3, 2]) r := by
    intro r _ _
    simp only [source2, Profiles.n, Nat.cast_ofNat, Nat.cast_one, distr_pow_eq, evalN_cubic]
    ring
  rw [ite_eq_piece hs, abel_piece_cubic _ _ _ _ one_pos h0.le h1.le]
  simp only [proj2, cubicAbel, Profiles.n, Nat.cast_ofNat, Nat.cast_one, distr_pow_eq, log_real, a_eq_hc,
    log_add_hc_div one_pos h0]
  ring

/-- **profile 5** (the unit disc) -/
theorem profile5_pair (x : ℝ) (h0 : 0 < x) (h1 : x < 1) :
    proj5 x = Abel (fun r => if 0 ≤ r ∧ r < 1 then source5 r else 0) x := by
  have hs : ∀ r : ℝ, 0 ≤ r → r < 1 → source5 r = evalN 4 (cvec [1, 0, 0, 0]) r := by
    intro r _ _
    simp only [source5, Profiles.n, Nat.cast_one, evalN_cubic]
    ring
  rw [ite_eq_piece hs, abel_piece_cubic _ _ _ _ one_pos h0.le h1.le]
  simp only [proj5, cubicAbel, Profiles.n, Nat.cast_ofNat, Nat.cast_one, a_eq_hc]
  ring

theorem profile7_pair (x : ℝ) (h0 : 0 < x) (h1 : x < 1) :
    proj7 x = Abel (fun r => if 0 ≤ r ∧ r < 1 then source7 r else 0) x := by
  have hs : ∀ r : ℝ, 0 ≤ r → r < 1 → source7 r = evalN 7 (cvec [1 / 2, 0, 5, 0, -23 / 2, 0, 6]) r := by
    intro r _ _
    simp only [source7, Profiles.n, Nat.cast_ofNat, Nat.cast_one, distr_pow_eq, evalN, sumRange, cvec, List.getD_cons_zero,
      List.getD_cons_succ]
    ring
  -- the odd coefficients vanish, so only `a(0)`, `a(2)`, `a(4)`, `a(6)` are needed: no logarithm
  rw [ite_eq_piece hs, abel_piece 7 _ 0 1 x le_rfl one_pos h0.le h1, polyAbelAt_eq 7 _ le_rfl one_pos h0.le,
    hc_sq_sub_of_le le_rfl h0.le]
  simp only [sumRange, abelA_reduction 0, abelA_reduction 2, abelA_reduction 4, abelA_deg_zero, cvec, List.getD_cons_zero,
    List.getD_cons_succ, proj7, Profiles.n, Nat.cast_ofNat, Nat.cast_zero, Nat.cast_one, distr_pow_eq, a_eq_hc]
  ring

/-- **profile 3** (two pieces, break at 1/2) -/
theorem profile3_pair (x : ℝ) (h0 : 0 < x) (h1 : x < 1) :
    proj3 x = Abel (fun r => if 0 ≤ r ∧ r < 1 then source3 r else 0) x := by
  have hl : ∀ r : ℝ, 0 ≤ r → r < 1 / 2 → source3 r = evalN 4 (cvec [1, 0, -2, 0]) r := by
    intro r _ h
    simp only [source3, Profiles.n, Nat.cast_ofNat, Nat.cast_one, distr_pow_eq, if_pos h.le, evalN_cubic]
    ring
  have hr : ∀ r : ℝ, 1 / 2 < r → r < 1 → source3 r = evalN 4 (cvec [2, -4, 2, 0]) r := by
    intro r h _
    simp only [source3, Profiles.n, Nat.cast_ofNat, Nat.cast_one, distr_pow_eq, if_neg h.not_ge, evalN_cubic]
    ring
  rw [abel_two_cubic_source one_half_pos one_half_lt_one hl hr h0 h1]
  simp only [proj3, cubicAbel, Profiles.n, Nat.cast_ofNat, Nat.cast_one, distr_pow_eq, log_real, a_eq_hc,
    log_add_hc_div one_pos h0, log_add_hc_div one_pos (add_pos_of_pos_of_nonneg one_half_pos (hc_nonneg _))]
  split_ifs <;> ring

/-- **profile 1** (two cubic pieces, break at 1/4) -/
theorem profile1_pair (x : ℝ) (h0 : 0 < x) (h1 : x < 1) :
    proj1 x = Abel (fun r => if 0 ≤ r ∧ r < 1 then source1 r else 0) x := by
  have hl : ∀ r : ℝ, 0 ≤ r → r < 1 / 4 → source1 r = evalN 4 (cvec [3 / 4, 0, 12, -32]) r := by
    intro r _ h
    simp only [source1, Profiles.n, Nat.cast_ofNat, Nat.cast_one, distr_pow_eq, if_pos h.le, evalN_cubic]
    ring
  have hr : ∀ r : ℝ, 1 / 4 < r → r < 1 → source1 r = evalN 4 (cvec [16 / 27, 96 / 27, -240 / 27, 128 / 27]) r := by
    intro r h _
    simp only [source1, Profiles.n, Nat.cast_ofNat, Nat.cast_one, distr_pow_eq, if_neg h.not_ge, evalN_cubic]
    ring
  rw [abel_two_cubic_source (by norm_num) (by norm_num) hl hr h0 h1]
  simp only [proj1, cubicAbel, Profiles.n, Nat.cast_ofNat, Nat.cast_one, distr_pow_eq, log_real, a_eq_hc,
    log_add_hc_div one_pos h0, log_add_hc_div (show (0 : ℝ) < 1 / 4 by norm_num) h0]
  split_ifs <;> ring

private theorem seven_tenths : (0.7 : ℝ) = 7 / 10 := by norm_num

theorem source4_left (r : ℝ) (h : r ≤ 7 / 10) :
    source4 r = 1 / 10 + 551 / 100 * r ^ 2 - 21 / 4 * r ^ 3 := by
  simp only [source4, seven_tenths, if_pos h, distr_pow_eq]
  ring

theorem source4_right (r : ℝ) (h : 7 / 10 < r) :
    source4 r = -2037 / 50 + 3889 / 25 * r - 18889 / 100 * r ^ 2 + 7407 / 100 * r ^ 3 := by
  simp only [source4, seven_tenths, if_neg h.not_ge, distr_pow_eq]
  ring

theorem proj4_left (x : ℝ) (h : x ≤ 7 / 10) :
    proj4 x = 1134431 / 50000 * Real.sqrt (49 / 100 - x ^ 2) - (37778 / 300 - 111115 / 1000) * Real.sqrt (1 - x ^ 2)
      + (217557 / 1000 * Real.sqrt (49 / 100 - x ^ 2) - (75556 / 300 - 555525 / 10000) * Real.sqrt (1 - x ^ 2)) * x ^ 2
      + 3889 / 25 * x ^ 2 * Real.log ((1 + Real.sqrt (1 - x ^ 2)) / (7 / 10 + Real.sqrt (49 / 100 - x ^ 2)))
      + x ^ 4 * (555525 / 10000 * Real.log ((1 + Real.sqrt (1 - x ^ 2)) / x)
          - 5949 / 100 * Real.log ((7 / 10 + Real.sqrt (49 / 100 - x ^ 2)) / x)) := by
  have e1 : (1 : ℝ) * 1 - x * x = 1 - x ^ 2 := by ring
  have e2 : (7 / 10 : ℝ) * (7 / 10) - x * x = 49 / 100 - x ^ 2 := by ring
  simp only [proj4, seven_tenths, if_pos h, distr_pow_eq, Profiles.a, Profiles.n, sqrt_real, log_real, Nat.cast_ofNat, Nat.cast_one,
    e1, e2]
  ring

theorem proj4_right (x : ℝ) (h : 7 / 10 < x) :
    proj4 x = -(37778 / 300 - 111115 / 1000) * Real.sqrt (1 - x ^ 2) - (75556 / 300 - 555525 / 10000) * Real.sqrt (1 - x ^ 2) * x ^ 2
      + x ^ 2 * (3889 / 25 + 555525 / 10000 * x ^ 2) * Real.log ((1 + Real.sqrt (1 - x ^ 2)) / x) := by
  have e1 : (1 : ℝ) * 1 - x * x = 1 - x ^ 2 := by ring
  simp only [proj4, seven_tenths, if_neg h.not_ge, distr_pow_eq, Profiles.a, Profiles.n, sqrt_real, log_real, Nat.cast_ofNat,
    Nat.cast_one, e1]
  ring

/-- **profile 4** (two cubic pieces with the published decimal coefficients, break at 0.7; the source jumps there, which the
    line-of-sight integral does not see) -/
theorem profile4_pair (x : ℝ) (h0 : 0 < x) (h1 : x < 1) :
    proj4 x = Abel (fun r => if 0 ≤ r ∧ r < 1 then source4 r else 0) x := by
  have hl : ∀ r : ℝ, 0 ≤ r → r < 7 / 10 → source4 r = evalN 4 (cvec [1 / 10, 0, 551 / 100, -21 / 4]) r := by
    intro r _ h
    rw [source4_left r h.le, evalN_cubic]
    ring
  have hr : ∀ r : ℝ, 7 / 10 < r → r < 1 → source4 r = evalN 4 (cvec [-2037 / 50, 3889 / 25, -18889 / 100, 7407 / 100]) r := by
    intro r h _
    rw [source4_right r h, evalN_cubic]
    ring
  rw [abel_two_cubic_source (by norm_num) (by norm_num) hl hr h0 h1]
  simp only [cubicAbel, hc_eq_sqrt, one_pow, show ((7 : ℝ) / 10) ^ 2 = 49 / 100 by norm_num]
  split_ifs with hx
  · rw [proj4_left x hx, Real.log_div (by positivity) (by positivity), Real.log_div (by positivity) h0.ne',
      Real.log_div (by positivity) h0.ne']
    ring
  · rw [proj4_right x (not_le.mp hx), Real.log_div (by positivity) h0.ne']
    ring

/-- non-vacuity: at x = 1/2 the coded projection of the unit disc is the chord √3 -/
example : (proj5 (1 / 2 : ℝ)) = 2 * Real.sqrt (3 / 4) := by
  simp only [proj5, Profiles.a, Profiles.n, sqrt_real]; norm_num

end PyAbel.C11
