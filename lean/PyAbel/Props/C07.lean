/-
C07 — results never depend on basis-cache history;  C08 (state-machine part) — a damaged basis
file never changes a result.

Model: PyAbel/Model/Cache.lean.  A result is a descriptor ⟨gen, view⟩; it is *right* for request
`r` when `view = r` and `sound gen r` (cropping the basis generated for `gen` gives the basis
generated for `r`).  A fresh process with an empty directory returns ⟨r, r⟩.
The theorems hold for every rule set satisfying `Rules.Lawful`, which is then proved for the
five modules.  History = any finite list of calls (any parameters, with or without a basis
directory), cache_cleanup, basis_dir_cleanup, file damage and file removal.
-/
import PyAbel.Model.Cache
import Mathlib.Tactic.SplitIfs
import Mathlib.Tactic.Linarith

set_option linter.unusedSectionVars false

namespace PyAbel.C07
open PyAbel.Cache

variable {K : Type} [DecidableEq K]

/-- the mathematical facts a module's matching rules must respect -/
structure Lawful (R : Rules K) : Prop where
  sound_refl : ∀ r, R.sound r r = true
  disk_sound : ∀ k r, R.diskHit k r = true → R.sound k r = true
  mem_sound  : ∀ g k r, R.sound g k = true → R.memHit k r = true → R.sound g r = true
  load_key   : ∀ k r, R.diskHit k r = true → R.sound k (R.memKeyAfterLoad k r) = true

/-- invariant: what sits in memory is right for the key it is filed under -/
def Inv (R : Rules K) (s : State K) : Prop :=
  ∀ k d, s.mem = some (k, d) → d.view = k ∧ R.sound d.gen k = true

/-- a result is right for request `r` -/
def Right (R : Rules K) (r : K) : Outcome K → Prop
  | .ok d _ => d.view = r ∧ R.sound d.gen r = true
  | .raised => True

theorem bestFile_hit (R : Rules K) (r : K) (disk : List (K × FileState)) (f : K × FileState)
    (h : bestFile R r disk = some f) : R.diskHit f.1 r = true := by
  unfold bestFile at h
  refine List.foldlRecOn disk _ (motive := fun acc => ∀ a, acc = some a → R.diskHit a.1 r = true) nofun
    (fun acc hacc x _ a ha => ?_) f h
  by_cases hx : R.diskHit x.1 r = true
  · rw [if_pos hx] at ha
    cases acc with
    | none => cases ha; exact hx
    | some b =>
      dsimp only at ha
      split_ifs at ha
      · cases ha; exact hx
      · exact hacc a ha
  · rw [if_neg hx] at ha
    exact hacc a ha

theorem init_inv (R : Rules K) : Inv R (State.init : State K) := nofun

theorem generate_spec (R : Rules K) (L : Lawful R) (s : State K) (r : K) (b : Bool) :
    Inv R (generate s r b).1 ∧ Right R r (generate s r b).2 :=
  ⟨fun _ _ h => by cases h; exact ⟨rfl, L.sound_refl _⟩, rfl, L.sound_refl _⟩

/-- the four ways a call ends: served from memory, loaded from the best file, an exception on a best file that is damaged,
    or generated -/
theorem call_cases (R : Rules K) (s : State K) (r : K) (useDir : Bool) {P : State K × Outcome K → Prop}
    (hit : ∀ k d, s.mem = some (k, d) → R.memHit k r = true → P (s, .ok ⟨d.gen, r⟩ 0))
    (load : ∀ k, bestFile R r s.disk = some (k, .valid) →
      P (⟨some (R.memKeyAfterLoad k r, ⟨k, R.memKeyAfterLoad k r⟩), s.disk⟩, .ok ⟨k, r⟩ 1))
    (fail : ∀ k st, bestFile R r s.disk = some (k, st) → st ≠ .valid → P (call.failed R s, .raised))
    (gen : P (generate s r useDir)) : P (call R s r useDir) := by
  have miss : P (call.miss R s r useDir) := by
    unfold call.miss
    split_ifs
    · split
      · exact load _ ‹_›
      · split
        · exact gen
        · exact fail _ .corruptValueError ‹_› nofun
      · exact fail _ .corruptOther ‹_› nofun
      · exact gen
    · exact gen
  unfold call
  split
  · split_ifs with hh
    · exact hit _ _ ‹_› hh
    · exact miss
  · exact miss

/-- one call: the invariant is kept and the answer is right (or an exception) -/
theorem call_spec (R : Rules K) (L : Lawful R) (s : State K) (hs : Inv R s) (r : K) (useDir : Bool) :
    Inv R (call R s r useDir).1 ∧ Right R r (call R s r useDir).2 := by
  apply call_cases R s r useDir (P := fun x => Inv R x.1 ∧ Right R r x.2)
  case hit => exact fun k d hm hh => ⟨hs, rfl, L.mem_sound _ _ _ (hs k d hm).2 hh⟩
  case load =>
    intro k hbf
    have hk := bestFile_hit R r s.disk _ hbf
    exact ⟨fun _ _ h => by cases h; exact ⟨rfl, L.load_key _ _ hk⟩, rfl, L.disk_sound _ _ hk⟩
  case fail =>
    refine fun _ _ _ _ => ⟨?_, trivial⟩
    unfold call.failed
    split_ifs
    · exact nofun
    · exact hs
  case gen => exact generate_spec R L s r useDir

theorem step_inv (R : Rules K) (L : Lawful R) (s : State K) (hs : Inv R s) (op : Op K) :
    Inv R (step R s op).1 := by
  cases op with
  | call r b => exact (call_spec R L s hs r b).1
  | cacheCleanup => exact nofun
  -- the operations on the directory leave the memory slot as it is
  | dirCleanup | damage _ _ | remove _ | publish _ => exact hs

theorem run_inv (R : Rules K) (L : Lawful R) (s : State K) (hs : Inv R s) (ops : List (Op K)) :
    Inv R (run R s ops) := by
  induction ops generalizing s with
  | nil => exact hs
  | cons op ops ih => exact ih _ (step_inv R L s hs op)

/-- **C07**: after any history whatsoever, a call returns the basis a fresh process would generate
    for it (up to the module's sound cropping), or raises. -/
theorem history_independent (R : Rules K) (L : Lawful R) (h : List (Op K)) (r : K) (useDir : Bool) :
    Right R r (call R (run R State.init h) r useDir).2 :=
  (call_spec R L _ (run_inv R L _ (init_inv R) h) r useDir).2

/-- a fresh process with no basis directory generates exactly ⟨r, r⟩ -/
theorem fresh_result (R : Rules K) (r : K) :
    (call R (State.init : State K) r false).2 = .ok ⟨r, r⟩ 2 := by
  simp [call, call.miss, State.init, generate]

/-- **C08**: with no damaged file in the directory a call never raises: removing the damaged file
    (or letting the library overwrite it) restores normal service. -/
theorem no_damage_no_raise (R : Rules K) (s : State K) (r : K) (useDir : Bool)
    (hclean : ∀ f, bestFile R r s.disk = some f → f.2 = .valid) :
    ∀ o, (call R s r useDir).2 = o → o ≠ .raised := by
  rintro _ rfl
  exact call_cases R s r useDir (P := fun x => x.2 ≠ .raised) (fun _ _ _ _ => nofun) (fun _ _ => nofun)
    (fun _ _ hbf hst => absurd (hclean _ hbf) hst) nofun

/-! ### the five modules satisfy the laws
In each of them `sound` is the disk rule itself and a loaded file is filed under the request, so `disk_sound` and `load_key`
hold by definition; what differs is why a memory hit composes with `sound`. -/

theorem dasch_lawful : Lawful daschRules where
  sound_refl r := by simp [daschRules]
  disk_sound _ _ h := h
  mem_sound g k r h1 h2 := by
    simp only [daschRules, Bool.and_eq_true, decide_eq_true_eq] at *
    exact ⟨h1.1.trans h2.1, le_trans h2.2 h1.2⟩
  load_key _ _ h := h

theorem daun_lawful : Lawful daunRules where
  sound_refl r := by simp [daunRules]
  disk_sound _ _ h := h
  mem_sound g k r h1 h2 := by
    simp only [daunRules, Bool.and_eq_true, decide_eq_true_eq] at *
    obtain ⟨hd, hn2⟩ := h2
    rw [hd] at h1
    refine ⟨h1.1, ?_⟩
    -- at equal degree: equal sizes compose for the cubic splines, sufficient sizes otherwise
    split_ifs at h1 hn2 ⊢ <;> simp only [decide_eq_true_eq] at h1 hn2 ⊢
    · exact h1.2.trans hn2
    · exact hn2.trans h1.2
  load_key _ _ h := h

theorem basex_lawful : Lawful basexRules where
  sound_refl r := by simp [basexRules]
  disk_sound _ _ h := h
  mem_sound g k r h1 h2 := by
    simp only [basexRules, Bool.and_eq_true, decide_eq_true_eq] at *
    subst h2; exact h1
  load_key _ _ h := h

theorem linbasex_lawful : Lawful linbasexRules where
  sound_refl r := by simp [linbasexRules]
  disk_sound _ _ h := h
  mem_sound g k r h1 h2 := by
    simp only [linbasexRules, decide_eq_true_eq, Bool.and_eq_true] at *
    exact h1.trans h2.1
  load_key _ _ h := h

theorem rbasex_lawful : Lawful rbasexRules where
  sound_refl r := by cases r; simp [rbasexRules]
  disk_sound _ _ h := h
  mem_sound g k r h1 h2 := by
    -- the memory key agrees with the request in all three fields
    simp only [rbasexRules, Bool.and_eq_true, decide_eq_true_eq] at h1 h2 ⊢
    obtain ⟨⟨hr, ho⟩, hodd⟩ := h2
    rw [← hr, ← ho, ← hodd]; exact h1
  load_key _ _ h := h

/-- what the pre-repair daun disk rule did: degree 3 accepted any sufficient file.  It is not lawful:
    cropping a 30-pixel cubic-spline basis is not the 20-pixel basis (finding F7, replayed on the
    real code by the check). -/
def daunRulesBeforeRepair : Rules DaunKey :=
  { daunRules with diskHit := fun k r => k.degree = r.degree && r.n ≤ k.n }

theorem daun_before_repair_unlawful : ¬ Lawful daunRulesBeforeRepair := by
  intro L
  have := L.disk_sound ⟨30, 3⟩ ⟨20, 3⟩ (by decide)
  revert this; decide

/-! non-vacuity: a concrete history on the dasch machine ends in a right answer from memory -/
example : (call daschRules (run daschRules State.init
      [.call ⟨.two_point, 30⟩ true, .damage ⟨.two_point, 30⟩ .corruptOther, .cacheCleanup,
       .call ⟨.three_point, 25⟩ true]) ⟨.three_point, 20⟩ true).2 = .ok ⟨⟨.three_point, 25⟩, ⟨.three_point, 20⟩⟩ 0 := by
  decide

end PyAbel.C07
