/-
C04 for the three methods that are not stored matrices: the Hansen–Law recursion, the direct quadrature and the
Bordas onion peeling (`Model/Recursions.lean`, tied to abel/hansenlaw.py, abel/direct.py and abel/onion_bordas.py by the
`hansen` / `direct` / `bordas` driver operations): linearity in the data, and the scaling with the pixel size `dr`.

Linearity needs no property of the transcendental functions: the theorems hold for *any* coefficient tables and any
interpretation of `log`, `rpow`, `sqrt`, `cosh`, `acosh`, `π` on a field — in particular for the coded constants
`h`, `λ` and for any others a future edit might put there.
-/
import PyAbel.Lemmas.Linalg
import PyAbel.Lemmas.RealInst
import PyAbel.Model.Recursions
import Mathlib.Analysis.SpecialFunctions.Trigonometric.Inverse

set_option linter.unusedSectionVars false

namespace PyAbel.C04
open PyAbel

variable {K : Type} [Field K]

/-! ### Hansen–Law -/

/-- the state vector is linear in the driving function, at every step, for every coefficient table -/
theorem hansen_state_linear (c : HansenLaw.Coef K) (cols : ℕ) (a b : K) (d1 d2 : ℕ → K) (t k : ℕ) :
    HansenLaw.state c cols (fun j => a * d1 j + b * d2 j) t k
      = a * HansenLaw.state c cols d1 t k + b * HansenLaw.state c cols d2 t k := by
  induction t generalizing k with
  | zero => simp [HansenLaw.state]
  | succ t ih => simp only [HansenLaw.state, ih]; ring

/-- … hence every output column of the recursion (including the two copied edge columns) -/
theorem hansen_recursion_linear (c : HansenLaw.Coef K) (Kn cols : ℕ) (a b : K) (d1 d2 : ℕ → K) (j : ℕ) :
    HansenLaw.recursion c Kn cols (fun j => a * d1 j + b * d2 j) j
      = a * HansenLaw.recursion c Kn cols d1 j + b * HansenLaw.recursion c Kn cols d2 j := by
  have raw : ∀ col, HansenLaw.aimRaw c Kn cols (fun j => a * d1 j + b * d2 j) col
      = a * HansenLaw.aimRaw c Kn cols d1 col + b * HansenLaw.aimRaw c Kn cols d2 col := fun col => by
    unfold HansenLaw.aimRaw
    rw [← sumRange_linear]
    exact congrArg _ (funext (hansen_state_linear c cols a b d1 d2 _))
  unfold HansenLaw.recursion
  by_cases h : cols < 3
  · simp only [if_pos h, mul_zero, add_zero]
  · simp only [if_neg h]
    split_ifs
    all_goals exact raw _

theorem hansen_recursion_smul (c : HansenLaw.Coef K) (Kn cols : ℕ) (a : K) (d : ℕ → K) (j : ℕ) :
    HansenLaw.recursion c Kn cols (fun j => a * d j) j = a * HansenLaw.recursion c Kn cols d j := by
  simpa using hansen_recursion_linear c Kn cols a 0 d (fun _ => 0) j

section
variable [HasPi K]

theorem driveForward_linear (dr a b : K) (x y : ℕ → K) (j : ℕ) :
    HansenLaw.driveForward dr (fun k => a * x k + b * y k) j
      = a * HansenLaw.driveForward dr x j + b * HansenLaw.driveForward dr y j := by
  unfold HansenLaw.driveForward; ring

theorem driveInverse0_linear (cols : ℕ) (dr a b : K) (x y : ℕ → K) (j : ℕ) :
    HansenLaw.driveInverse0 cols dr (fun k => a * x k + b * y k) j
      = a * HansenLaw.driveInverse0 cols dr x j + b * HansenLaw.driveInverse0 cols dr y j := by
  unfold HansenLaw.driveInverse0; split_ifs <;> ring

theorem driveInverse1_linear (cols : ℕ) (dr a b : K) (x y : ℕ → K) (j : ℕ) :
    HansenLaw.driveInverse1 cols dr (fun k => a * x k + b * y k) j
      = a * HansenLaw.driveInverse1 cols dr x j + b * HansenLaw.driveInverse1 cols dr y j := by
  unfold HansenLaw.driveInverse1; split_ifs <;> ring

/-! the pixel size enters the drives as a factor only (`x / 0 = 0` on both sides when `dr = 0`) -/

theorem driveForward_dr (dr : K) (x : ℕ → K) :
    HansenLaw.driveForward dr x = fun i => dr * HansenLaw.driveForward 1 x i := by
  funext i; unfold HansenLaw.driveForward; ring

theorem driveInverse0_dr (cols : ℕ) (dr : K) (x : ℕ → K) :
    HansenLaw.driveInverse0 cols dr x = fun i => 1 / dr * HansenLaw.driveInverse0 cols 1 x i := by
  funext i; unfold HansenLaw.driveInverse0; split_ifs <;> ring

theorem driveInverse1_dr (cols : ℕ) (dr : K) (x : ℕ → K) :
    HansenLaw.driveInverse1 cols dr x = fun i => 1 / dr * HansenLaw.driveInverse1 cols 1 x i := by
  funext i; unfold HansenLaw.driveInverse1; split_ifs <;> ring

variable [HasLog K] [HasRpow K]

/-- **`hansenlaw_transform` is linear in the row**, for both directions and both hold orders, every length, every pixel size,
    every value of the model constants -/
theorem hansenlaw_linear (h lam : ℕ → K) (Kn : ℕ) (forward hold1 : Bool) (cols : ℕ) (dr a b : K) (x y : ℕ → K) (j : ℕ) :
    HansenLaw.transform h lam Kn forward hold1 cols dr (fun k => a * x k + b * y k) j
      = a * HansenLaw.transform h lam Kn forward hold1 cols dr x j
        + b * HansenLaw.transform h lam Kn forward hold1 cols dr y j := by
  unfold HansenLaw.transform
  rw [← hansen_recursion_linear]
  congr 1
  funext i
  cases forward <;> cases hold1 <;>
    simp [driveForward_linear, driveInverse0_linear, driveInverse1_linear]

/-- **forward scales with the pixel size**: `forward(dr) = dr · forward(1)` -/
theorem hansenlaw_forward_dr (h lam : ℕ → K) (Kn : ℕ) (hold1 : Bool) (cols : ℕ) (dr : K) (x : ℕ → K) (j : ℕ) :
    HansenLaw.transform h lam Kn true hold1 cols dr x j = dr * HansenLaw.transform h lam Kn true hold1 cols 1 x j := by
  simp only [HansenLaw.transform, if_true]
  rw [driveForward_dr, hansen_recursion_smul]

/-- **inverse scales with 1/dr** -/
theorem hansenlaw_inverse_dr (h lam : ℕ → K) (Kn : ℕ) (hold1 : Bool) (cols : ℕ) (dr : K) (hdr : dr ≠ 0) (x : ℕ → K) (j : ℕ) :
    HansenLaw.transform h lam Kn false hold1 cols dr x j = (1 / dr) * HansenLaw.transform h lam Kn false hold1 cols 1 x j := by
  cases hold1 <;> simp only [HansenLaw.transform, Bool.false_eq_true, if_false, if_true]
  · rw [driveInverse0_dr, hansen_recursion_smul]
  · rw [driveInverse1_dr, hansen_recursion_smul]

end

/-! ### direct -/

theorem direct_gradient_linear (n : ℕ) (a b : K) (x y : ℕ → K) (i : ℕ) :
    Direct.gradient n (fun k => a * x k + b * y k) i = a * Direct.gradient n x i + b * Direct.gradient n y i := by
  unfold Direct.gradient; split_ifs <;> ring

theorem direct_trapz_linear (n : ℕ) (dx a b : K) (x y : ℕ → K) :
    Direct.trapz n dx (fun k => a * x k + b * y k) = a * Direct.trapz n dx x + b * Direct.trapz n dx y := by
  unfold Direct.trapz
  rw [← sumRange_linear]
  exact sumRange_congr _ _ _ fun k _ => by ring

theorem direct_trapz_smul (n : ℕ) (dx a : K) (y : ℕ → K) :
    Direct.trapz n dx (fun k => a * y k) = a * Direct.trapz n dx y := by
  simpa using direct_trapz_linear n dx a 0 y (fun _ => 0)

section
variable [HasSqrt K] [HasCosh K] [HasAcosh K]

/-- weight of sample `j` in the quadrature of row `i`, apart from the trapezoid rule's own `dx`, ½: the inverse square root, halved
    at the two ends of the singular cell ("correct for the extra triangle at the start of the integral") -/
def directWeight (r : ℕ → K) (i j : ℕ) : K := Direct.isqrt r i j * (if j = i ∨ j = i + 1 then 1 - 1 / 2 else 1)

/-- the analytic integral over the singular cell (`correction=True`) -/
def directCell (r : ℕ → K) (z : Bool) (f : ℕ → K) (i : ℕ) : K :=
  sqrt (r (i + 1) * r (i + 1) - r i * r i) * ((f (i + 1) - f i) / (r (i + 1) - r i))
    + HasAcosh.acosh (if z ∧ i = 0 then HasCosh.cosh 1 else r (i + 1) / r i)
      * (f i - (f (i + 1) - f i) / (r (i + 1) - r i) * r i)

theorem direct_integral_eq (n : ℕ) (r : ℕ → K) (dx : K) (z corr : Bool) (f : ℕ → K) (i : ℕ) :
    Direct.integral n r dx z corr f i
      = Direct.trapz n dx (fun j => f j * directWeight r i j) + if corr ∧ i + 1 < n then directCell r z f i else 0 := by
  have e : (fun j => f j * directWeight r i j) = fun j => 1 * (f j * Direct.isqrt r i j)
      + -(1 / 2) * (if j = i ∨ j = i + 1 then f j * Direct.isqrt r i j else 0) := by
    funext j; unfold directWeight; split_ifs <;> ring
  rw [e, direct_trapz_linear, one_mul, neg_mul, ← sub_eq_add_neg]
  unfold Direct.integral directCell
  by_cases hc : corr = true ∧ i + 1 < n
  · simp only [if_pos hc]
  · simp only [if_neg hc, add_zero]

theorem direct_cell_linear (r : ℕ → K) (z : Bool) (a b : K) (f g : ℕ → K) (i : ℕ) :
    directCell r z (fun k => a * f k + b * g k) i = a * directCell r z f i + b * directCell r z g i := by
  unfold directCell; ring

/-- the singular quadrature (trapezoid rule, half-cell removal, analytic correction of the singular cell) is linear in the
    integrand samples, for every grid `r`, with or without the correction -/
theorem direct_integral_linear (n : ℕ) (r : ℕ → K) (dx : K) (z corr : Bool) (a b : K) (f g : ℕ → K) (i : ℕ) :
    Direct.integral n r dx z corr (fun k => a * f k + b * g k) i
      = a * Direct.integral n r dx z corr f i + b * Direct.integral n r dx z corr g i := by
  simp only [direct_integral_eq, direct_cell_linear, add_mul, mul_assoc, direct_trapz_linear]
  split_ifs <;> ring

variable [HasPi K]

/-- **`direct_transform` (python backend) is linear in the row**, both directions, with and without correction -/
theorem direct_linear (forward corr : Bool) (n : ℕ) (dr a b : K) (x y : ℕ → K) (i : ℕ) :
    Direct.transform forward corr n dr (fun k => a * x k + b * y k) i
      = a * Direct.transform forward corr n dr x i + b * Direct.transform forward corr n dr y i := by
  unfold Direct.transform
  dsimp only
  rw [← direct_integral_linear]
  congr 1
  funext k
  cases forward
  · simp only [Bool.false_eq_true, if_false, direct_gradient_linear]; ring
  · simp only [if_true]; ring

end

/-! ### direct: scaling with the pixel size (over ℝ; `cosh`, `acosh` may be any functions — only ratios of radii reach them) -/

section
variable [HasCosh ℝ] [HasAcosh ℝ]

theorem direct_trapz_scale (n : ℕ) (dx c : ℝ) (y : ℕ → ℝ) : Direct.trapz n (dx * c) y = c * Direct.trapz n dx y := by
  unfold Direct.trapz
  rw [← sumRange_smul]
  exact sumRange_congr _ _ _ fun k _ => by ring

theorem sqrt_scale (a b c : ℝ) (hc : 0 ≤ c) : sqrt (a * c * (a * c) - b * c * (b * c)) = c * sqrt (a * a - b * b) := by
  simp only [sqrt_real]
  rw [show a * c * (a * c) - b * c * (b * c) = c ^ 2 * (a * a - b * b) by ring, Real.sqrt_mul (sq_nonneg c), Real.sqrt_sq hc]

theorem direct_isqrt_scale (r : ℕ → ℝ) (c : ℝ) (hc : 0 < c) (i j : ℕ) :
    Direct.isqrt (fun k => r k * c) i j = Direct.isqrt r i j / c := by
  unfold Direct.isqrt
  split_ifs
  · rw [sqrt_scale _ _ c hc.le, div_div, mul_comm]
  · rw [zero_div]

theorem direct_cell_scale (r : ℕ → ℝ) (c a : ℝ) (hc : 0 < c) (z : Bool) (f : ℕ → ℝ) (i : ℕ) :
    directCell (fun k => r k * c) z (fun k => a * f k) i = a * directCell r z f i := by
  unfold directCell
  have hfr : (a * f (i + 1) - a * f i) / (r (i + 1) * c - r i * c) = a * ((f (i + 1) - f i) / (r (i + 1) - r i)) / c := by
    rw [← mul_sub, ← sub_mul, ← div_div, mul_div_assoc]
  rw [sqrt_scale _ _ c hc.le, hfr, mul_div_mul_right _ _ hc.ne']
  generalize (f (i + 1) - f i) / (r (i + 1) - r i) = q
  generalize sqrt (r (i + 1) * r (i + 1) - r i * r i) = S
  generalize HasAcosh.acosh (if z ∧ i = 0 then HasCosh.cosh 1 else r (i + 1) / r i) = A
  field_simp

theorem direct_integral_scale (n : ℕ) (r : ℕ → ℝ) (dx c a : ℝ) (hc : 0 < c) (z corr : Bool) (f : ℕ → ℝ) (i : ℕ) :
    Direct.integral n (fun k => r k * c) (dx * c) z corr (fun k => a * f k) i
      = a * Direct.integral n r dx z corr f i := by
  have hw : (fun j => a * f j * directWeight (fun k => r k * c) i j)
      = fun j => a / c * (f j * directWeight r i j) := by
    funext j; simp only [directWeight, direct_isqrt_scale r c hc]; ring
  rw [direct_integral_eq, direct_integral_eq, direct_cell_scale r c a hc, hw, direct_trapz_scale, direct_trapz_smul,
    ← mul_assoc, mul_div_cancel₀ _ hc.ne', mul_add, mul_ite, mul_zero]

variable [HasPi ℝ]

/-- **direct forward transform scales with the pixel size**: `forward(dr) = dr · forward(1)` for every `dr > 0` -/
theorem direct_forward_dr (corr : Bool) (n : ℕ) (dr : ℝ) (hdr : 0 < dr) (im : ℕ → ℝ) (i : ℕ) :
    Direct.transform true corr n dr im i = dr * Direct.transform true corr n 1 im i := by
  simp only [Direct.transform, if_true, mul_one]
  rw [← direct_integral_scale n _ 1 dr dr hdr, one_mul]
  exact congrArg (fun f => Direct.integral n _ dr true corr f i) (funext fun k => by ring)

/-- **direct inverse transform scales with 1/dr** -/
theorem direct_inverse_dr (corr : Bool) (n : ℕ) (dr : ℝ) (hdr : 0 < dr) (im : ℕ → ℝ) (i : ℕ) :
    Direct.transform false corr n dr im i = (1 / dr) * Direct.transform false corr n 1 im i := by
  simp only [Direct.transform, Bool.false_eq_true, if_false, mul_one]
  rw [← direct_integral_scale n _ 1 dr (1 / dr) hdr, one_mul]
  exact congrArg (fun f => Direct.integral n _ dr true corr f i) (funext fun k => by ring)

end

/-! ### Bordas onion peeling (`shift_grid=False`): back substitution with the arcsine shell weights -/

section
variable [HasAsin K]

/-- **`onion_bordas_transform` is linear in the row** (for any weight table, in particular `val1`) -/
theorem bordas_linear (v : ℕ → ℕ → K) (w : ℕ) (dr a b : K) (x y : ℕ → K) (k : ℕ) :
    Bordas.transformWith v w dr (fun m => a * x m + b * y m) k
      = a * Bordas.transformWith v w dr x k + b * Bordas.transformWith v w dr y k := by
  simp only [Bordas.transformWith, backSubst, backSubstAux_linear]
  ring

/-- **… and scales with 1/dr** -/
theorem bordas_inverse_dr (v : ℕ → ℕ → K) (w : ℕ) (dr : K) (hdr : dr ≠ 0) (x : ℕ → K) (k : ℕ) :
    Bordas.transformWith v w dr x k = (1 / dr) * Bordas.transformWith v w 1 x k := by
  unfold Bordas.transformWith
  ring

/-- what the peeling loop computes: with `y_k = out_k · (k+1) · 2dr`, the weights reproduce the data, `V y = row` — the loop
    inverts the upper-triangular shell-weight matrix exactly (any table with non-zero diagonal) -/
theorem bordas_solves (v : ℕ → ℕ → K) (w : ℕ) (hd : ∀ i, i < w → v i i ≠ 0) (htri : ∀ i j, j < i → v i j = 0)
    (x : ℕ → K) (i : ℕ) (hi : i < w) :
    matVec w v (fun j => (backSubst v x w).getD j 0) i = x i :=
  backSubst_correct v x w hd htri i hi

end

/-! the coded weights `val1` over ℝ (`asin` = `Real.arcsin`) are upper triangular with positive diagonal, so the loop's
    result is *the* solution of `val1 · y = row` -/
noncomputable instance : HasAsin ℝ := ⟨Real.arcsin⟩

theorem bordas_val1_tri (i j : ℕ) (h : j < i) : (Bordas.val1 i j : ℝ) = 0 := by
  unfold Bordas.val1; rw [if_neg (not_le.2 h)]

theorem bordas_val1_diag_pos (i : ℕ) : 0 < (Bordas.val1 i i : ℝ) := by
  have hpos : (0 : ℝ) < ((i + 1 : ℕ) : ℝ) := Nat.cast_pos.2 i.succ_pos
  have hlt : (i : ℝ) / ((i + 1 : ℕ) : ℝ) < 1 := (div_lt_one hpos).2 (Nat.cast_lt.2 i.lt_succ_self)
  have hge : (-1 : ℝ) ≤ (i : ℝ) / ((i + 1 : ℕ) : ℝ) := neg_one_lt_zero.le.trans (div_nonneg i.cast_nonneg hpos.le)
  unfold Bordas.val1
  rw [if_pos le_rfl, div_self hpos.ne']
  exact sub_pos.2 (Real.arcsin_lt_arcsin hge hlt le_rfl)

/-- **Bordas peeling inverts its shell-weight matrix**: for every row and size, `Σ_j val1[i, j] · y_j = row_i` -/
theorem bordas_val1_solves (w : ℕ) (x : ℕ → ℝ) (i : ℕ) (hi : i < w) :
    matVec w (fun i j => (Bordas.val1 i j : ℝ)) (fun j => (backSubst (fun i j => (Bordas.val1 i j : ℝ)) x w).getD j 0) i = x i :=
  bordas_solves _ w (fun i _ => (bordas_val1_diag_pos i).ne') (fun i j h => bordas_val1_tri i j h) x i hi

/-- non-vacuity: a concrete 3-state recursion on 5 columns really depends on the drive -/
example : HansenLaw.recursion (α := ℚ) ⟨fun _ _ => 1 / 2, fun _ _ => 1, fun _ k => k⟩ 3 5 (fun j => j) 2 = 51 / 2 := by
  decide +kernel

end PyAbel.C04
