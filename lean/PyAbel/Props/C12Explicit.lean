/-
C12 — `center_image` with an explicit whole-pixel origin (model: `centerImageExplicit`, the code after the repairs F36 / F38 / F58):
whenever the request is not refused, the requested pixel of the *input* image — counted from the start or from the end — is the
centre pixel `(rows // 2, cols // 2)` of the output, for every crop option and every combination of `odd_size` and `square`
(including the second squaring after the shape-changing crops); and it is refused exactly when the pixel lies in the rows or
columns that the trimming removes.
-/
import PyAbel.Props.C12
import Mathlib.Data.Nat.Basic
import Mathlib.Order.Basic

namespace PyAbel.C12
open PyAbel

theorem centerAxis_size_pos (crop : Crop) (n : Nat) (o : Int) (h0 : 0 ≤ o) (h1 : o < n) : 1 ≤ (centerAxis crop n o).size := by
  cases crop <;> simp only [centerAxis] <;> omega

theorem explicitOrigin_some {n trimmed size' : Nat} {o a : Int} (h : explicitOrigin n trimmed size' o = some a) :
    0 ≤ a ∧ a < size' ∧ a = wrapOrigin n o - trimmed := by
  unfold explicitOrigin at h
  simp only at h
  split_ifs at h with hc
  injection h with h
  omega

/-- refused exactly when the requested (wrapped) index is outside the kept block `[trimmed, trimmed + size')` -/
theorem explicitOrigin_none_iff (n trimmed size' : Nat) (o : Int) :
    explicitOrigin n trimmed size' o = none ↔ (wrapOrigin n o < trimmed ∨ (trimmed : Int) + size' ≤ wrapOrigin n o) := by
  simp only [explicitOrigin]
  split_ifs with hc
  · exact iff_of_true rfl (by omega)
  · exact iff_of_false not_false (by omega)

/-- the centre of a central slice is the centre of the whole -/
theorem slice_centre (m : AxisMap) (len : Nat) (h1 : 1 ≤ len) (h2 : len ≤ m.size) :
    (m.slice (m.size / 2 - len / 2) len).src ((m.slice (m.size / 2 - len / 2) len).size / 2) = m.src (m.size / 2) := by
  simp only [AxisMap.slice]
  rw [if_pos (Nat.div_lt_self h1 Nat.one_lt_two), Nat.sub_add_cancel (Nat.div_le_div_right h2)]

theorem shiftSrc_centre {n trimmed size' : Nat} {o a : Int} (h : explicitOrigin n trimmed size' o = some a) (m : AxisMap)
    (hm : 0 ≤ a → a < size' → m.src (m.size / 2) = some a.toNat) :
    (m.shiftSrc trimmed).src ((m.shiftSrc trimmed).size / 2) = some (wrapOrigin n o).toNat := by
  obtain ⟨h0, h1, h2⟩ := explicitOrigin_some h
  rw [← Int.sub_add_cancel (wrapOrigin n o) trimmed, ← h2, Int.toNat_add_nat h0]
  exact congrArg (Option.map (· + trimmed)) (hm h0 h1)

theorem one_axis (crop : Crop) (n trimmed size' : Nat) (o a : Int) (h : explicitOrigin n trimmed size' o = some a) :
    ((centerAxis crop size' a).shiftSrc trimmed).src (((centerAxis crop size' a).shiftSrc trimmed).size / 2) = some (wrapOrigin n o).toNat :=
  shiftSrc_centre h _ (origin_lands_at_centre crop size' a)

theorem one_axis_sliced (crop : Crop) (n trimmed size' : Nat) (o a : Int) (len : Nat) (hl1 : 1 ≤ len) (hl2 : len ≤ (centerAxis crop size' a).size)
    (h : explicitOrigin n trimmed size' o = some a) :
    let m := ((centerAxis crop size' a).slice ((centerAxis crop size' a).size / 2 - len / 2) len).shiftSrc trimmed
    m.src (m.size / 2) = some (wrapOrigin n o).toNat :=
  shiftSrc_centre h _ fun h0 h1 => (slice_centre _ len hl1 hl2).trans (origin_lands_at_centre crop size' a h0 h1)

theorem explicit_spec (crop : Crop) (rows cols : Nat) (oddSize square : Bool) (o0 o1 : Int) (rm cm : AxisMap)
    (h : centerImageExplicit crop rows cols oddSize square o0 o1 = some (rm, cm)) :
    rm.src (rm.size / 2) = some (wrapOrigin rows o0).toNat ∧ cm.src (cm.size / 2) = some (wrapOrigin cols o1).toNat
      ∧ (square = true → rm.size = cm.size) := by
  unfold centerImageExplicit at h
  dsimp only at h
  generalize centerImageTrim rows cols oddSize square = t at h
  split at h
  next a b ha hb =>
    split at h
    · obtain ⟨rfl, rfl⟩ := Prod.mk.inj (Option.some.inj h)
      obtain ⟨a0, a1, -⟩ := explicitOrigin_some ha
      obtain ⟨b0, b1, -⟩ := explicitOrigin_some hb
      have l1 := oddTrim_pos oddSize (Nat.le_min.2 ⟨centerAxis_size_pos crop _ a a0 a1, centerAxis_size_pos crop _ b b0 b1⟩)
      exact ⟨one_axis_sliced crop rows _ _ o0 a _ l1 ((oddTrim_le _ _).trans (Nat.min_le_left _ _)) ha,
        one_axis_sliced crop cols _ _ o1 b _ l1 ((oddTrim_le _ _).trans (Nat.min_le_right _ _)) hb, fun _ => rfl⟩
    next hsq =>
      obtain ⟨rfl, rfl⟩ := Prod.mk.inj (Option.some.inj h)
      exact ⟨one_axis crop rows _ _ o0 a ha, one_axis crop cols _ _ o1 b hb,
        fun hs => by rwa [hs, Bool.true_and, bne_iff_ne, not_not] at hsq⟩
  · cases h

/-- **the requested pixel of the input image lands at the centre of the output** -/
theorem explicit_origin_lands_at_centre (crop : Crop) (rows cols : Nat) (oddSize square : Bool) (o0 o1 : Int) (rm cm : AxisMap)
    (h : centerImageExplicit crop rows cols oddSize square o0 o1 = some (rm, cm)) :
    rm.src (rm.size / 2) = some (wrapOrigin rows o0).toNat ∧ cm.src (cm.size / 2) = some (wrapOrigin cols o1).toNat :=
  have hs := explicit_spec crop rows cols oddSize square o0 o1 rm cm h
  ⟨hs.1, hs.2.1⟩

/-- … and with `square` the output is square, with `odd_size` (and `square`) of odd size, after the second squaring too -/
theorem explicit_square (crop : Crop) (rows cols : Nat) (oddSize : Bool) (o0 o1 : Int) (rm cm : AxisMap)
    (h : centerImageExplicit crop rows cols oddSize true o0 o1 = some (rm, cm)) : rm.size = cm.size :=
  (explicit_spec crop rows cols oddSize true o0 o1 rm cm h).2.2 rfl

/-- non-vacuity: a 9x5 image, the pixel (6, 2), `square=True`: the kept block is rows 2..6, the pixel lands at the centre (2, 2);
    the pixel (1, 2) is removed by the trimming and the request is refused -/
example : (centerImageExplicit .maintainSize 9 5 true true 6 2).map (fun p => (p.1.size, p.2.size, p.1.src 2, p.2.src 2)) = some (5, 5, some 6, some 2) ∧
    (centerImageExplicit .maintainSize 9 5 true true 1 2).isNone = true ∧
    (centerImageExplicit .validRegion 9 5 true true (-3) (-3)).map (fun p => (p.1.size, p.2.size, p.1.src (p.1.size / 2), p.2.src (p.2.size / 2))) = some (1, 1, some 6, some 2) := by
  decide +kernel

end PyAbel.C12
