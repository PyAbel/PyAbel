/-
C02 — forward transforms reproduce the true projection (a-priori part).

Proved:  (i) positivity bound of the Abel operator: a function supported in [0, R) and bounded by M projects to at
most 2M·√(R²−x²) in absolute value (chord length times the bound) — the tool that turns an interpolation error into a
projection error;  (ii) the forward matrix forms scale with the pixel size (from C04);  (iii) the degree-0 Daun forward
operator applied to samples is *exactly* the Abel integral of the corresponding step interpolant, for every profile
and size (from C09), so its error is the projection of the interpolation error, bounded by (i).
Accuracy envelopes of the other forward methods (basex, hansenlaw, direct, rbasex) are measured by the check.
-/
import PyAbel.Lemmas.Abel
import PyAbel.Lemmas.AbelLinear
import Mathlib.Algebra.Order.Floor.Semiring
import PyAbel.Props.C04
import PyAbel.Props.C03Bases

open MeasureTheory Set

namespace PyAbel.C02
open PyAbel

/-- the positivity bound needs the bound on `g` only at the radii `r ≥ 0` a line of sight visits -/
theorem abel_abs_le_of_nonneg {g : ℝ → ℝ} {R M : ℝ} (x : ℝ) (hR : 0 ≤ R) (hsupp : ∀ r, R ≤ r → g r = 0)
    (hbound : ∀ r, 0 ≤ r → |g r| ≤ M) : |Abel g x| ≤ 2 * M * hc (R ^ 2 - x ^ 2) := by
  -- the line of sight meets the support along `0 < z ≤ hc (R² − x²)` only
  have h := intervalIntegral.norm_integral_le_of_norm_le_const (a := 0) (b := hc (R ^ 2 - x ^ 2)) (C := M)
    (f := fun z => g (los x z)) (fun z _ => hbound _ (los_nonneg x z))
  rw [sub_zero, abs_of_nonneg (hc_nonneg _), Real.norm_eq_abs] at h
  rw [abel_of_support hR hsupp (fun _ _ => rfl) x, abs_mul, abs_of_pos two_pos, mul_assoc]
  exact mul_le_mul_of_nonneg_left h zero_le_two

/-- **positivity bound**: `|Abel g x| ≤ 2 M √(R² − x²)₊` for `g` supported in `[0, R)` with `|g| ≤ M` -/
theorem abel_abs_le (g : ℝ → ℝ) (R M x : ℝ) (hR : 0 ≤ R) (hM : 0 ≤ M)
    (hsupp : ∀ r, R ≤ r → g r = 0) (hbound : ∀ r, |g r| ≤ M) :
    |Abel g x| ≤ 2 * M * hc (R ^ 2 - x ^ 2) :=
  abel_abs_le_of_nonneg x hR hsupp fun r _ => hbound r

/-- forward operators in matrix form scale with the pixel size: `forward(dr) = dr · forward(1)` (C04) -/
theorem forward_scales_with_dr {K : Type} [Field K] (n : ℕ) (M : ℕ → ℕ → K) (dr : K) (x : ℕ → K) (j : ℕ) :
    vecMat n x (fun k j => M k j * dr) j = vecMat n x M j * dr :=
  C04.forward_scales n M dr x j

/-- every entry of the degree-0 forward matrix is bounded by the chord through its shell: `0 ≤ A[j,i] ≤ 2·√((j+½)²−i²)₊` -/
theorem daun0_entry_le (j i : ℕ) : |(daun0 j i : ℝ)| ≤ 2 * 1 * hc (((j : ℝ) + 1 / 2) ^ 2 - (i : ℝ) ^ 2) := by
  rw [C09.daun0_eq_abel]
  refine abel_abs_le _ _ 1 _ (by positivity) zero_le_one (fun r hr => indicator_of_notMem (fun hm => hm.2.not_ge hr) _) fun r => ?_
  rw [C09.rect, indicator_apply]
  split_ifs
  · exact abs_one.le
  · exact abs_zero.trans_le zero_le_one

/-- **general reduction**: for any basis `b_j` whose projections are the matrix entries, the forward transform of the samples
    errs by at most the chord length times the interpolation error of the basis expansion -/
theorem forward_error_le_of_interp (n : ℕ) (b : ℕ → ℝ → ℝ) (c : ℕ → ℝ) (f : ℝ → ℝ) (x R ε : ℝ) (hR : 0 ≤ R) (hε : 0 ≤ ε)
    (hb : ∀ j, j < n → LosInt (b j) x) (hf : LosInt f x)
    (hsupp : ∀ r, R ≤ r → sumRange n (fun j => c j * b j r) - f r = 0)
    (hinterp : ∀ r, 0 ≤ r → |sumRange n (fun j => c j * b j r) - f r| ≤ ε) :
    |sumRange n (fun j => c j * Abel (b j) x) - Abel f x| ≤ 2 * ε * hc (R ^ 2 - x ^ 2) := by
  obtain ⟨hS, hSint⟩ := abel_sumRange n c b x hb
  rw [← hS, ← abel_sub hSint hf]
  exact abel_abs_le_of_nonneg x hR hsupp hinterp

/-! ### an a-priori accuracy envelope for one forward method

`daun_transform(direction='forward', degree=0)` (equivalently the forward onion-peeling matrix) applied to the samples
`f(0), f(1), …` of a Lipschitz source is the exact projection of the step interpolant of the samples (C09), so its error is
the projection of the interpolation error — at most `L/2` on the support — and the positivity bound gives an explicit
first-order envelope, for every size and every pixel. -/

theorem rect_eq_delta {r : ℝ} (hr : 0 ≤ r) (j : ℕ) : C09.rect j r = if ⌊r + 1 / 2⌋₊ = j then 1 else 0 := by
  rw [C09.rect_formula j r hr]
  exact if_congr ((and_congr sub_le_iff_le_add (by rw [← add_lt_add_iff_right (1 / 2), add_assoc, add_halves])).trans
    (Nat.floor_eq_iff (add_nonneg hr one_half_pos.le)).symm) rfl rfl

/-- the step interpolant `Σ_j c_j rect_j` takes the value of the nearest sample -/
theorem stepInterp_eq (n : ℕ) (c : ℕ → ℝ) (r : ℝ) (hr : 0 ≤ r) (hlt : r < (n : ℝ) - 1 / 2) :
    ∃ j0, j0 < n ∧ |(j0 : ℝ) - r| ≤ 1 / 2 ∧ sumRange n (fun j => c j * C09.rect j r) = c j0 := by
  have h0 : (0 : ℝ) ≤ r + 1 / 2 := add_nonneg hr one_half_pos.le
  have hj0 : ⌊r + 1 / 2⌋₊ < n := (Nat.floor_lt h0).mpr (lt_sub_iff_add_lt.mp hlt)
  refine ⟨_, hj0, abs_le.mpr ⟨by linarith only [Nat.lt_floor_add_one (r + 1 / 2)], sub_le_iff_le_add'.mpr (Nat.floor_le h0)⟩, ?_⟩
  rw [← sumRange_delta n _ hj0 c]
  exact sumRange_congr _ _ _ fun j _ => by rw [rect_eq_delta hr j, mul_comm]

/-- … and vanishes beyond the last pixel -/
theorem stepInterp_zero (n : ℕ) (c : ℕ → ℝ) (r : ℝ) (hge : (n : ℝ) - 1 / 2 ≤ r) (hn : 0 < n) :
    sumRange n (fun j => c j * C09.rect j r) = 0 := by
  have hr : 0 ≤ r := (C09.sub_half_pos hn).le.trans hge
  refine sumRange_eq_zero n _ fun j hj => ?_
  rw [rect_eq_delta hr j, if_neg (hj.trans_le (Nat.le_floor (sub_le_iff_le_add.mp hge))).ne', mul_zero]

/-- **a-priori envelope of the degree-0 forward transform** (Daun degree 0 / forward onion peeling), every size `n`, every
    pixel `i`: for a continuous source that is `L`-Lipschitz on `r ≥ 0` and vanishes beyond the last pixel's outer edge,
    `|forward(samples)[i] − Abel f (i)| ≤ L · √((n − ½)² − i²)₊` (units of the pixel size: first order in `dr`). -/
theorem daun0_forward_error_le (n : ℕ) (hn : 0 < n) (f : ℝ → ℝ) (L : ℝ) (hL : 0 ≤ L) (hcont : Continuous f)
    (hlip : ∀ r s, 0 ≤ r → 0 ≤ s → |f r - f s| ≤ L * |r - s|)
    (hsupp : ∀ r, (n : ℝ) - 1 / 2 ≤ r → f r = 0) (i : ℕ) :
    |sumRange n (fun j => f j * (daun0 j i : ℝ)) - Abel f i| ≤ L * hc (((n : ℝ) - 1 / 2) ^ 2 - (i : ℝ) ^ 2) := by
  have hR : (0 : ℝ) ≤ (n : ℝ) - 1 / 2 := (C09.sub_half_pos hn).le
  -- the forward product is the projection of the step interpolant, which is within `L/2` of the source
  have h := forward_error_le_of_interp n (fun j => C09.rect j) (fun j => f j) f i ((n : ℝ) - 1 / 2) (L / 2) hR (div_nonneg hL zero_le_two)
    (fun j _ => losInt_shell _ _ _ (le_max_left _ _) (max_le (by positivity) (C09.sub_half_le_add_half _)))
    (losInt_of_continuous hcont hsupp i)
    (fun r hr => by rw [stepInterp_zero n _ r hr hn, hsupp r hr, sub_zero]) fun r hr0 => ?_
  · simpa only [← C09.daun0_eq_abel, mul_div_cancel₀ _ (two_ne_zero' ℝ)] using h
  · rcases lt_or_ge r ((n : ℝ) - 1 / 2) with hlt | hge
    · obtain ⟨j0, _, hd, hval⟩ := stepInterp_eq n (fun j => f j) r hr0 hlt
      rw [hval]
      calc |f j0 - f r| ≤ L * |(j0 : ℝ) - r| := hlip _ _ (Nat.cast_nonneg _) hr0
        _ ≤ L * (1 / 2) := mul_le_mul_of_nonneg_left hd hL
        _ = L / 2 := by ring
    · rw [stepInterp_zero n _ r hge hn, hsupp r hge, sub_zero, abs_zero]
      exact div_nonneg hL zero_le_two

/-- **degree 1** (Daun degree 1): the forward transform of the samples errs by at most `2 ε √(n² − i²)₊`, where `ε` bounds the
    error of piecewise-linear interpolation of the source on `[0, n)` (for a C² source, `ε = max|f″|/8` in pixel units:
    second order in `dr` — that classical interpolation estimate is a hypothesis here, not proved) -/
theorem daun1_forward_error_le (n : ℕ) (f : ℝ → ℝ) (ε : ℝ) (hε : 0 ≤ ε) (hcont : Continuous f)
    (hsupp : ∀ r, (n : ℝ) ≤ r → f r = 0)
    (hinterp : ∀ r, 0 ≤ r → |sumRange n (fun j => f j * C09.hat j r) - f r| ≤ ε) (i : ℕ) :
    |sumRange n (fun j => f j * (daun1 j i : ℝ)) - Abel f i| ≤ 2 * ε * hc ((n : ℝ) ^ 2 - (i : ℝ) ^ 2) := by
  have h := forward_error_le_of_interp n (fun j => C09.hat j) (fun j => f j) f i n ε (Nat.cast_nonneg n) hε
    (fun j _ => losInt_of_continuous (C03.hat_continuous j) (C03.hat_zero_of_ge j) i) (losInt_of_continuous hcont hsupp i)
    (fun r hr => ?_) hinterp
  · simpa only [← C09.daun1_eq_abel] using h
  · -- beyond the last node every hat vanishes, and so does the source
    rw [hsupp r hr, sub_zero]
    refine sumRange_eq_zero n _ fun j hj => ?_
    have hjn : (j : ℝ) + 1 ≤ n := by exact_mod_cast hj
    rw [C03.hat_zero_of_ge j r (hjn.trans hr), mul_zero]

/-- non-vacuity: the ramp `f(r) = max (2 − r) 0` is continuous, 1-Lipschitz and vanishes beyond 2.5 = 3 − ½ -/
example : ∃ f : ℝ → ℝ, Continuous f ∧ (∀ r s, 0 ≤ r → 0 ≤ s → |f r - f s| ≤ 1 * |r - s|) ∧
    (∀ r, ((3 : ℕ) : ℝ) - 1 / 2 ≤ r → f r = 0) ∧ f 0 = 2 := by
  refine ⟨fun r => max (2 - r) 0, by fun_prop, ?_, ?_, by norm_num⟩
  · intro r s _ _
    rw [one_mul]
    calc |max (2 - r) 0 - max (2 - s) 0| ≤ |(2 - r) - (2 - s)| := abs_max_sub_max_le_abs _ _ _
      _ = |r - s| := by rw [show (2 - r) - (2 - s) = -(r - s) by ring, abs_neg]
  · intro r hr
    have : (2 : ℝ) - r ≤ 0 := by push_cast at hr; linarith
    simp [this]

end PyAbel.C02
