/-
C09 — every basis projection and operator equals its defining Abel integral.

Proved here: the Daun bases of degree 0, 1 and 2 (`_bs_daun(n, 0..2)`) and the onion-peeling weight matrix `W`
(`_bs_onion_peeling`) are, entry by entry and for all indices, the line-of-sight integrals of the basis functions they are
defined from: rectangles, hats (second differences of ramps) and quadratic B-splines (combinations of four quadratic ramps).
The other families have files of their own (C09Daun3, C09Basex, C09Rbasex, C09TwoPoint, C09ThreePoint).
-/
import PyAbel.Lemmas.Abel
import PyAbel.Lemmas.AbelRamp
import PyAbel.Lemmas.RealInst
import PyAbel.Props.C17

namespace PyAbel.C09
open PyAbel Set

theorem sub_half_pos {j : ℕ} (hj : 0 < j) : (0 : ℝ) < (j : ℝ) - 1 / 2 :=
  sub_pos.mpr (one_half_lt_one.trans_le (Nat.one_le_cast.mpr hj))

theorem sub_half_le_add_half (t : ℝ) : t - 1 / 2 ≤ t + 1 / 2 :=
  (sub_le_self t one_half_pos.le).trans (le_add_of_nonneg_right one_half_pos.le)

theorem add_half_le {i j : ℕ} (h : j < i) : (j : ℝ) + 1 / 2 ≤ (i : ℝ) :=
  (add_le_add_right one_half_lt_one.le _).trans (by exact_mod_cast h)

theorem le_sub_half {i j : ℕ} (h : i < j) : (i : ℝ) ≤ (j : ℝ) - 1 / 2 :=
  le_sub_iff_add_le.mpr (add_half_le h)

/-- the code holds the radii `j ± ½` doubled, as the naturals `2j ± 1` -/
theorem cast_two_mul_add_one (j : ℕ) : ((2 * j + 1 : ℕ) : ℝ) = 2 * ((j : ℝ) + 1 / 2) := by
  rw [mul_add, mul_one_div_cancel two_ne_zero, Nat.cast_succ, Nat.cast_mul, Nat.cast_ofNat]

theorem cast_two_mul_sub_one {j : ℕ} (hj : 0 < j) : ((2 * j - 1 : ℕ) : ℝ) = 2 * ((j : ℝ) - 1 / 2) := by
  rw [mul_sub, mul_one_div_cancel two_ne_zero, Nat.cast_pred (Nat.mul_pos two_pos hj), Nat.cast_mul, Nat.cast_ofNat]

/-- pixel `i` lies below the knot under node `j`, on that knot, on the node, or beyond it; each position decides every guard of
    the coded entries -/
theorem node_cases (i j : ℕ) :
    (i + 1 < j ∧ i + 1 ≠ j ∧ i < j ∧ i ≤ j ∧ i ≠ j ∧ 0 < j)
      ∨ (i + 1 = j ∧ ¬ i + 1 < j ∧ i < j ∧ i ≤ j ∧ i ≠ j ∧ 0 < j)
      ∨ (i = j ∧ ¬ i + 1 < j ∧ i + 1 ≠ j ∧ ¬ i < j ∧ i ≤ j)
      ∨ (j < i ∧ ¬ i + 1 < j ∧ i + 1 ≠ j ∧ ¬ i < j ∧ ¬ i ≤ j ∧ i ≠ j) := by
  rcases lt_trichotomy (i + 1) j with h | h | h
  · have hlt := Nat.lt_of_succ_lt h
    exact Or.inl ⟨h, h.ne, hlt, hlt.le, hlt.ne, pos_of_gt h⟩
  · have hlt := Nat.lt_of_succ_le h.le
    exact Or.inr (Or.inl ⟨h, h.not_lt, hlt, hlt.le, hlt.ne, pos_of_gt hlt⟩)
  · rcases Nat.lt_succ_iff_lt_or_eq.mp h with h2 | h2
    · exact Or.inr (Or.inr (Or.inr ⟨h2, h.not_gt, h.ne', h2.not_gt, h2.not_ge, h2.ne'⟩))
    · exact Or.inr (Or.inr (Or.inl ⟨h2.symm, h.not_gt, h.ne', h2.not_gt, h2.ge⟩))

/-- the rectangular (degree 0) basis function of pixel `j`: 1 on `[j − ½, j + ½)`, restricted to `r ≥ 0` -/
noncomputable def rect (j : ℕ) : ℝ → ℝ := indicator (Ico (max 0 ((j : ℝ) - 1 / 2)) ((j : ℝ) + 1 / 2)) 1

/-- **Daun degree 0**: `A[j, i]` is the Abel integral of the `j`-th rectangular function at pixel `i`
    (all `i`, `j`; units of the pixel size) -/
theorem daun0_eq_abel (j i : ℕ) : (daun0 j i : ℝ) = Abel (rect j) i := by
  have hi : (0 : ℝ) ≤ i := Nat.cast_nonneg i
  have hlo : (0 : ℝ) ≤ max 0 ((j : ℝ) - 1 / 2) := le_max_left _ _
  have hhi : max 0 ((j : ℝ) - 1 / 2) ≤ (j : ℝ) + 1 / 2 :=
    max_le (add_nonneg (Nat.cast_nonneg j) one_half_pos.le) (sub_half_le_add_half _)
  unfold rect
  rw [abel_shell _ _ _ hlo hhi]
  unfold daun0
  simp only [sqrt_real, Nat.cast_ofNat, Nat.cast_pow, cast_two_mul_add_one, mul_div_cancel_left₀ _ (two_ne_zero' ℝ), ← sq]
  split_ifs with hlt hij
  · -- the pixel lies beyond the shell
    have h := add_half_le hlt
    rw [hc_sq_sub_of_le (hlo.trans hhi) h, hc_sq_sub_of_le hlo (hhi.trans h), sub_self, mul_zero]
  · -- the inner radius lies inside pixel `i`
    subst hij
    rw [hc_sq_sub_of_le hlo (max_le hi (sub_le_self _ one_half_pos.le)), hc_eq_sqrt, sub_zero]
  · have hij : i < j := lt_of_le_of_ne (not_lt.mp hlt) hij
    rw [cast_two_mul_sub_one (pos_of_gt hij), mul_div_cancel_left₀ _ two_ne_zero, max_eq_right (hi.trans (le_sub_half hij)),
      hc_eq_sqrt, hc_eq_sqrt]

/-- **Onion peeling**: `W[i, j]` (Dasch Eq. (11)) is the Abel integral of the `j`-th shell at pixel `i`;
    the deconvolution operator is `D = W⁻¹`, the exact inverse of that projection for piecewise-constant data. -/
theorem onionW_eq_abel (i j : ℕ) : (onionW i j : ℝ) = Abel (rect j) i := by
  rw [← C17.daun_default_eq_onion_peeling_matrix, daun0_eq_abel]

/-- the unprojected degree-0 basis function is the documented rectangle: 1 on `[j − ½, j + ½)`, 0 elsewhere (`r ≥ 0`) -/
theorem rect_formula (j : ℕ) (r : ℝ) (hr : 0 ≤ r) :
    rect j r = if (j : ℝ) - 1 / 2 ≤ r ∧ r < (j : ℝ) + 1 / 2 then 1 else 0 := by
  rw [rect, indicator_apply]
  exact if_congr (and_congr_left' (max_le_iff.trans (and_iff_right hr))) rfl rfl

/-- the piecewise-linear (degree 1) basis function of pixel `j`: the triangle of half-width 1 centred at `j` -/
noncomputable def hat (j : ℕ) (r : ℝ) : ℝ := max 0 (1 - |r - j|)

/-- a hat is the second difference of ramps -/
theorem hat_eq_ramps (j : ℕ) (r : ℝ) :
    hat j r = ramp ((j : ℝ) + 1) r - 2 * ramp (j : ℝ) r + ramp ((j : ℝ) - 1) r := by
  unfold hat
  rcases le_total r j with h | h
  · -- left of the centre the two upper ramps are whole
    rw [abs_of_nonpos (sub_nonpos.mpr h), ramp_of_le (h.trans (le_add_of_nonneg_right zero_le_one)), ramp_of_le h]
    rcases le_total r ((j : ℝ) - 1) with h1 | h1
    · rw [ramp_of_le h1, max_eq_left (by linarith)]; ring
    · rw [ramp_zero_of_le h1, max_eq_right (by linarith)]; ring
  · -- right of it the two lower ones are gone
    rw [abs_of_nonneg (sub_nonneg.mpr h), ramp_zero_of_le h, ramp_zero_of_le ((sub_le_self _ zero_le_one).trans h)]
    rcases le_total r ((j : ℝ) + 1) with h1 | h1
    · rw [ramp_of_le h1, max_eq_right (by linarith)]; ring
    · rw [ramp_zero_of_le h1, max_eq_left (by linarith)]; ring

theorem hat_zero_eq_ramp (r : ℝ) (hr : 0 ≤ r) : hat 0 r = ramp 1 r := by
  unfold hat ramp
  rw [Nat.cast_zero, sub_zero, abs_of_nonneg hr]

/-- the code guards `i = 0`; on the reals `0² · log 0 = 0` anyway -/
theorem x2logx_real (i : ℕ) : (x2logx i : ℝ) = (i : ℝ) ^ 2 * Real.log i := by
  unfold x2logx
  split_ifs with h
  · rw [h, Nat.cast_zero, Real.log_zero, mul_zero]
  · rw [log_real, Nat.cast_pow]

/-- the coded antiderivative `P(R)[i] = y R − x² ln(y + R)` plus `x² ln x` is the Abel transform of the ramp `(R − r)₊` -/
theorem abel_ramp_nat (R i : ℕ) :
    Abel (ramp (R : ℝ)) i = if i < R then (daun1P R i : ℝ) + x2logx i else 0 := by
  rw [abel_ramp _ _ (Nat.cast_nonneg R) (Nat.cast_nonneg i)]
  simp only [Nat.cast_lt, daun1P, x2logx_real, sqrt_real, log_real, Nat.cast_pow]

/-- the knot below pixel `j`, which `j = 0` does not have -/
private theorem abel_ramp_pred (j i : ℕ) :
    Abel (ramp ((j : ℝ) - 1)) i = if i + 1 < j then (daun1P (j - 1) i : ℝ) + x2logx i else 0 := by
  cases j with
  | zero =>
    exact abel_eq_zero_of_support (fun _ => ramp_zero_of_le) ((sub_le_self _ zero_le_one).trans (Nat.cast_le.mpr i.zero_le))
  | succ k =>
    rw [Nat.cast_succ, add_sub_cancel_right, abel_ramp_nat]
    simp only [Nat.add_lt_add_iff_right, Nat.add_sub_cancel]

/-- **Daun degree 1**: `A[j, i]` is the Abel integral of the `j`-th hat function at pixel `i`, for all `i`, `j` -/
theorem daun1_eq_abel (j i : ℕ) : (daun1 j i : ℝ) = Abel (hat j) i := by
  rw [abel_congr_nonneg (i : ℝ) (fun r _ => hat_eq_ramps j r),
    abel_add ((losInt_ramp _ _).sub ((losInt_ramp _ _).const_mul 2)) (losInt_ramp _ _),
    abel_sub (losInt_ramp _ _) ((losInt_ramp _ _).const_mul 2), abel_const_mul, ← Nat.cast_succ, abel_ramp_nat, abel_ramp_nat,
    abel_ramp_pred]
  unfold daun1
  simp only [Nat.lt_succ_iff]
  -- in each position every guard is decided, and the `x² ln x` cancel
  obtain h | ⟨rfl, h⟩ | ⟨rfl, h⟩ | h := node_cases i j
  · simp only [h, true_and, if_true, if_false]
    ring
  · simp only [h, Nat.add_sub_cancel, true_and, if_true, if_false]
    ring
  · simp only [h, and_false, if_true, if_false]
    ring
  · simp only [h, and_false, if_false]
    ring

/-! non-vacuity: the diagonal entry of the first off-axis pixel, W[1,1] = √5, is 2·√(1.5² − 1²) -/
example : Abel (rect 1) 1 = 2 * (hc ((3 / 2 : ℝ) ^ 2 - 1 ^ 2) - hc ((1 / 2 : ℝ) ^ 2 - 1 ^ 2)) := by
  unfold rect
  rw [abel_shell _ _ _ (le_max_left _ _) (by norm_num)]
  norm_num

/-- the quadratic (degree 2) basis function of pixel `j`: `1 − 2d²` for `|d| ≤ ½`, `2(|d| − 1)²` for `½ < |d| ≤ 1`, `d = r − j` -/
noncomputable def bspline2 (j : ℕ) (r : ℝ) : ℝ :=
  if |r - j| ≤ 1 / 2 then 1 - 2 * (r - j) ^ 2 else if |r - j| ≤ 1 then 2 * (|r - j| - 1) ^ 2 else 0

/-- a quadratic B-spline is a combination of four quadratic ramps (truncated powers at the knots j ± 1, j ± ½) -/
theorem bspline2_eq_qramps (j : ℕ) (r : ℝ) :
    bspline2 j r = 2 * qramp ((j : ℝ) + 1) r - 4 * qramp ((j : ℝ) + 1 / 2) r
      + 4 * qramp ((j : ℝ) - 1 / 2) r - 2 * qramp ((j : ℝ) - 1) r := by
  unfold bspline2
  rcases le_total r j with h | h
  · -- left of the centre the two upper truncated powers are whole; the lower ones end at their knots
    rw [abs_of_nonpos (sub_nonpos.mpr h), neg_sub, qramp_of_le (h.trans (le_add_of_nonneg_right zero_le_one)),
      qramp_of_le (h.trans (le_add_of_nonneg_right one_half_pos.le))]
    rcases lt_or_ge r ((j : ℝ) - 1 / 2) with h1 | h1
    · rw [qramp_of_le h1.le, if_neg (not_le.mpr (lt_sub_comm.mp h1))]
      rcases lt_or_ge r ((j : ℝ) - 1) with h2 | h2
      · rw [qramp_of_le h2.le, if_neg (not_le.mpr (lt_sub_comm.mp h2))]; ring
      · rw [qramp_zero_of_le h2, if_pos (sub_le_comm.mp h2)]; ring
    · rw [qramp_zero_of_le h1, qramp_zero_of_le ((sub_le_sub_left one_half_lt_one.le _).trans h1), if_pos (sub_le_comm.mp h1)]; ring
  · -- right of it the two lower ones are gone; the upper ones end at their knots
    rw [abs_of_nonneg (sub_nonneg.mpr h), qramp_zero_of_le ((sub_le_self _ zero_le_one).trans h),
      qramp_zero_of_le ((sub_le_self (j : ℝ) one_half_pos.le).trans h)]
    rcases le_or_gt r ((j : ℝ) + 1 / 2) with h1 | h1
    · rw [qramp_of_le h1, qramp_of_le (h1.trans (add_le_add_right one_half_lt_one.le _)), if_pos (sub_le_iff_le_add'.mpr h1)]; ring
    · rw [qramp_zero_of_le h1.le, if_neg (not_le.mpr (lt_sub_iff_add_lt'.mpr h1))]
      rcases le_or_gt r ((j : ℝ) + 1) with h2 | h2
      · rw [qramp_of_le h2, if_pos (sub_le_iff_le_add'.mpr h2)]; ring
      · rw [qramp_zero_of_le h2.le, if_neg (not_le.mpr (lt_sub_iff_add_lt'.mpr h2))]; ring

/-- linear combinations of four integrable profiles -/
theorem abel_comb4 (c1 c2 c3 c4 : ℝ) (f1 f2 f3 f4 : ℝ → ℝ) (x : ℝ)
    (h1 : LosInt f1 x) (h2 : LosInt f2 x) (h3 : LosInt f3 x) (h4 : LosInt f4 x) :
    Abel (fun r => c1 * f1 r - c2 * f2 r + c3 * f3 r - c4 * f4 r) x
      = c1 * Abel f1 x - c2 * Abel f2 x + c3 * Abel f3 x - c4 * Abel f4 x := by
  have i1 := h1.const_mul c1
  have i2 := h2.const_mul c2
  have i3 := h3.const_mul c3
  have i4 := h4.const_mul c4
  rw [abel_sub ((i1.sub i2).add i3) i4, abel_add (i1.sub i2) i3, abel_sub i1 i2,
    abel_const_mul, abel_const_mul, abel_const_mul, abel_const_mul]

/-- the coded antiderivative `P(R₂; a, b, c)` at the knot `R = R₂/2`, for coefficients in the ratio `a : b : c = R² : −2R : 1` -/
theorem daun2P_eq_abel (R2 i : ℕ) (a b c : ℤ) (ha : (a : ℝ) = c * ((R2 : ℝ) / 2) ^ 2) (hb : (b : ℝ) = -2 * c * ((R2 : ℝ) / 2)) :
    (c : ℝ) * Abel (qramp ((R2 : ℝ) / 2)) i = if 2 * i < R2 then (daun2P R2 a b c i : ℝ) - b * x2logx i else 0 := by
  have hiff : (i : ℝ) < (R2 : ℝ) / 2 ↔ 2 * i < R2 := (lt_div_iff₀' two_pos).trans (by norm_cast)
  rw [abel_qramp _ _ (by positivity) (Nat.cast_nonneg i)]
  simp only [hiff, daun2P, x2logx_real, sqrt_real, log_real, ha, hb, ← sq, Nat.cast_pow, Nat.cast_ofNat, mul_ite, mul_zero]
  exact if_congr Iff.rfl (by ring) rfl

/-- the coded antiderivative for an integer knot `m`: `P(2m; 2m², −4m, 2)[i] + 4m·i² ln i = 2·Abel((m − r)₊²)(i)` -/
theorem daun2P_even (m i : ℕ) :
    2 * Abel (qramp (m : ℝ)) i
      = if i < m then (daun2P (2 * m) (2 * (m : ℤ) ^ 2) (-4 * (m : ℤ)) 2 i : ℝ) + ((4 * m : ℕ) : ℝ) * x2logx i else 0 := by
  have h := daun2P_eq_abel (2 * m) i (2 * (m : ℤ) ^ 2) (-4 * (m : ℤ)) 2 (by push_cast; ring) (by push_cast; ring)
  rw [Nat.cast_mul, Nat.cast_ofNat, mul_div_cancel_left₀ _ two_ne_zero, Int.cast_ofNat] at h
  rw [h]
  refine if_congr (Nat.mul_lt_mul_left two_pos) ?_ rfl
  push_cast; ring

/-- … and for a half-integer knot `n/2`: `P(n; n², −4n, 4)[i] + 4n·i² ln i = 4·Abel((n/2 − r)₊²)(i)` -/
theorem daun2P_odd (n i : ℕ) :
    4 * Abel (qramp ((n : ℝ) / 2)) i
      = if 2 * i < n then (daun2P n ((n : ℤ) ^ 2) (-4 * (n : ℤ)) 4 i : ℝ) + ((4 * n : ℕ) : ℝ) * x2logx i else 0 := by
  have h := daun2P_eq_abel n i ((n : ℤ) ^ 2) (-4 * (n : ℤ)) 4 (by push_cast; ring) (by push_cast; ring)
  rw [Int.cast_ofNat] at h
  rw [h]
  refine if_congr Iff.rfl ?_ rfl
  push_cast; ring

/-- **Daun degree 2**: `A[j, i]` is the Abel integral of the `j`-th quadratic B-spline at pixel `i`, for all `i`, `j` -/
theorem daun2_eq_abel (j i : ℕ) : (daun2 j i : ℝ) = Abel (bspline2 j) i := by
  rw [abel_congr_nonneg (i : ℝ) (fun r _ => bspline2_eq_qramps j r),
    abel_comb4 2 4 4 2 _ _ _ _ _ (losInt_qramp _ _) (losInt_qramp _ _) (losInt_qramp _ _) (losInt_qramp _ _),
    ← Nat.cast_succ, daun2P_even (j + 1) i,
    -- the half-integer knots `j ± ½` are `(2j ± 1)/2`
    ← mul_div_cancel_left₀ ((j : ℝ) + 1 / 2) two_ne_zero, ← cast_two_mul_add_one, daun2P_odd (2 * j + 1) i]
  unfold daun2
  simp only [Nat.lt_succ_iff, Nat.mul_le_mul_left_iff Nat.two_pos]
  rcases Nat.eq_zero_or_pos j with rfl | hj
  · -- the two lower knots lie below the axis
    rw [abel_qramp_nonpos _ _ (by norm_num), abel_qramp_nonpos _ _ (by norm_num)]
    simp only [lt_irrefl, false_and, if_false]
    split_ifs
    · push_cast; ring
    · ring
  · rw [← mul_div_cancel_left₀ ((j : ℝ) - 1 / 2) two_ne_zero, ← cast_two_mul_sub_one hj, daun2P_odd (2 * j - 1) i,
      ← Nat.cast_pred (R := ℝ) hj, daun2P_even (j - 1) i]
    simp only [hj, true_and, show 2 * i < 2 * j - 1 ↔ i < j by omega, Nat.lt_sub_iff_add_lt]
    push_cast [Nat.cast_pred (Nat.mul_pos two_pos hj), Nat.cast_pred hj]
    obtain h | ⟨rfl, h⟩ | ⟨rfl, h⟩ | h := node_cases i j
    · simp only [h, if_true, if_false]
      ring
    · simp only [h, Nat.add_sub_cancel, if_true, if_false]
      push_cast; ring
    · simp only [h, if_true, if_false]
      ring
    · simp only [h, if_false]
      ring

/-! non-vacuity: on the axis the unit ramp projects to 1 (chord 1, mean height ½, both sides) -/
example : Abel (ramp 1) 0 = 1 := by
  rw [abel_ramp 1 0 (by norm_num) (le_refl 0)]; norm_num

end PyAbel.C09
