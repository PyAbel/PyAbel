/-
Line-of-sight integrals of radial monomials:  J n a b = ∫_a^b (√(x² + z²))ⁿ dz,  0 ≤ a ≤ b.

  * base cases  J 0 = b − a,   J 1 = ½ [z s + x² ln(z + s)]_a^b
  * reduction   (n + 3) J (n+2) = [z s^(n+2)]_a^b + (n + 2) x² J n          (integration by parts, as the fundamental theorem
                                                                             of calculus applied to z ↦ z s^(n+2))
The antiderivatives are differentiated on `a < z < b` only, where `s > 0` whatever `x` is; `x = 0` is asked about once, for the
continuity of `x² ln(z + s)` at `z = 0`.
These are the identities behind `abel.tools.polynomial.Polynomial`'s closed-form transform and behind the ramps of `AbelRamp`.
-/
import PyAbel.Lemmas.AbelLinear
import Mathlib.Analysis.SpecialFunctions.Sqrt
import Mathlib.Analysis.SpecialFunctions.Log.Deriv
import Mathlib.MeasureTheory.Integral.IntervalIntegral.FundThmCalculus
import Mathlib.Tactic.FieldSimp
import Mathlib.Tactic.Ring

open MeasureTheory Set

namespace PyAbel

noncomputable def J (x : ℝ) (n : ℕ) (a b : ℝ) : ℝ := ∫ z in a..b, los x z ^ n

theorem los_pow_intervalIntegrable (x : ℝ) (n : ℕ) (a b : ℝ) : IntervalIntegrable (fun z => los x z ^ n) volume a b :=
  ((los_continuous x).pow n).intervalIntegrable a b

theorem J_zero (x a b : ℝ) : J x 0 a b = b - a := by
  unfold J; simp

theorem hasDerivAt_los {x z : ℝ} (h : 0 < los x z) : HasDerivAt (los x) (z / los x z) z := by
  have hinner : HasDerivAt (fun z : ℝ => x ^ 2 + z ^ 2) (2 * z) z := by
    simpa using (hasDerivAt_pow 2 z).const_add (x ^ 2)
  exact (hinner.sqrt (Real.sqrt_pos.mp h).ne').congr_deriv (mul_div_mul_left _ _ two_ne_zero)

theorem hasDerivAt_log_add_los {x z : ℝ} (h : 0 < los x z) (hz : 0 < z + los x z) :
    HasDerivAt (fun t => Real.log (t + los x t)) (1 / los x z) z := by
  refine (((hasDerivAt_id' z).add (hasDerivAt_los h)).log hz.ne').congr_deriv ?_
  rw [Pi.add_apply, one_add_div h.ne', add_comm, div_div_cancel_left' hz.ne', one_div]

theorem hasDerivAt_z_los_pow {x z : ℝ} (h : 0 < los x z) (n : ℕ) :
    HasDerivAt (fun z => z * los x z ^ (n + 2)) (((n : ℝ) + 3) * los x z ^ (n + 2) - ((n : ℝ) + 2) * x ^ 2 * los x z ^ n) z := by
  refine ((hasDerivAt_id z).mul ((hasDerivAt_los h).pow (n + 2))).congr_deriv ?_
  simp only [Pi.pow_apply, id, one_mul, Nat.cast_add, Nat.cast_ofNat, show n + 2 - 1 = n + 1 from rfl]
  linear_combination ((n : ℝ) + 2) * z * los x z ^ n * mul_div_cancel₀ z h.ne' - ((n : ℝ) + 2) * los x z ^ n * los_sq x z

theorem J_reduction (x : ℝ) (n : ℕ) {a b : ℝ} (ha : 0 ≤ a) (hab : a ≤ b) :
    ((n : ℝ) + 3) * J x (n + 2) a b
      = (b * los x b ^ (n + 2) - a * los x a ^ (n + 2)) + ((n : ℝ) + 2) * x ^ 2 * J x n a b := by
  have hcont : Continuous fun z => z * los x z ^ (n + 2) := by have := los_continuous x; fun_prop
  have h := intervalIntegral.integral_eq_sub_of_hasDerivAt_of_le hab hcont.continuousOn
    (fun z hz => hasDerivAt_z_los_pow (los_pos_of_pos_right x (ha.trans_lt hz.1)) n)
    (((los_pow_intervalIntegrable x (n + 2) a b).const_mul _).sub ((los_pow_intervalIntegrable x n a b).const_mul _))
  rw [intervalIntegral.integral_sub ((los_pow_intervalIntegrable x (n + 2) a b).const_mul _)
    ((los_pow_intervalIntegrable x n a b).const_mul _), intervalIntegral.integral_const_mul,
    intervalIntegral.integral_const_mul] at h
  unfold J
  linear_combination h

theorem J_one (x : ℝ) {a b : ℝ} (ha : 0 ≤ a) (hab : a ≤ b) :
    J x 1 a b = (1 / 2) * ((b * los x b - a * los x a) + x ^ 2 * (Real.log (b + los x b) - Real.log (a + los x a))) := by
  have hl := los_continuous x
  unfold J
  rw [intervalIntegral.integral_eq_sub_of_hasDerivAt_of_le hab
    (f := fun z => (1 / 2) * (z * los x z + x ^ 2 * Real.log (z + los x z))) ?_ ?_ (los_pow_intervalIntegrable x 1 a b)]
  · ring
  -- at `x = 0` the logarithm is switched off by its factor; elsewhere its argument is positive on `[a, b]`
  · rcases eq_or_ne x 0 with rfl | hx
    · simp only [zero_pow two_ne_zero, zero_mul, add_zero]
      fun_prop
    · have hpos : ∀ z ∈ Icc a b, z + los x z ≠ 0 := fun z hz =>
        (add_pos_of_nonneg_of_pos (ha.trans hz.1) (Real.sqrt_pos.mpr (by positivity))).ne'
      fun_prop (disch := assumption)
  · intro z hz
    have hz0 : 0 < z := ha.trans_lt hz.1
    have hs := los_pos_of_pos_right x hz0
    refine ((((hasDerivAt_id z).mul (hasDerivAt_los hs)).add
      ((hasDerivAt_log_add_los hs (add_pos hz0 hs)).const_mul (x ^ 2))).const_mul (1 / 2)).congr_deriv ?_
    have hs0 := hs.ne'
    rw [id, one_mul, pow_one]
    field_simp
    linear_combination -los_sq x z

end PyAbel
