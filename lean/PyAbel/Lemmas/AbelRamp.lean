/-
The Abel transform of the ramp `(R − r)₊` — the building block of the piecewise-linear (degree 1) basis functions:

  Abel (R − r)₊ (x) = y R − x² ln(y + R) + x² ln x,   y = √(R² − x²),   for 0 ≤ x < R     (0 for x ≥ R)

and of the quadratic ramp `(R − r)₊²`.  Inside radius `R` both are polynomials in `r`, so their transforms are combinations of the
integrals `J 0`, `J 1`, `J 2` of `AbelPoly` along the chord `0 ≤ z ≤ y`.
-/
import PyAbel.Lemmas.AbelPoly

open MeasureTheory Set

namespace PyAbel

/-- `(R − r)₊` -/
noncomputable def ramp (R : ℝ) (r : ℝ) : ℝ := max 0 (R - r)

theorem ramp_continuous (R : ℝ) : Continuous (ramp R) := by unfold ramp; fun_prop

theorem ramp_zero_of_le {R r : ℝ} (h : R ≤ r) : ramp R r = 0 := max_eq_left (sub_nonpos.mpr h)

theorem ramp_of_le {R r : ℝ} (h : r ≤ R) : ramp R r = R - r := max_eq_right (sub_nonneg.mpr h)

theorem losInt_ramp (R x : ℝ) : LosInt (ramp R) x :=
  losInt_of_continuous (ramp_continuous R) (fun _ => ramp_zero_of_le) x

theorem abel_ramp_mul (R x : ℝ) (hR : 0 ≤ R) (g : ℝ → ℝ) :
    Abel (fun ρ => ramp R ρ * g ρ) x = 2 * ∫ z in (0 : ℝ)..hc (R ^ 2 - x ^ 2), (R - los x z) * g (los x z) :=
  abel_of_support (g := fun ρ => (R - ρ) * g ρ) hR (fun r h => by rw [ramp_zero_of_le h, zero_mul])
    (fun r h => by rw [ramp_of_le h.le]) x

/-- along the chord the ramp is `R − ρ`: its transform in terms of `J 1`, for every `x` -/
theorem abel_ramp_chord (R x : ℝ) (hR : 0 ≤ R) :
    Abel (ramp R) x = 2 * (R * hc (R ^ 2 - x ^ 2) - J x 1 0 (hc (R ^ 2 - x ^ 2))) := by
  rw [abel_of_support hR (fun _ => ramp_zero_of_le) (g := fun r => R * r ^ 0 - r ^ 1)
      (fun r h => by rw [ramp_of_le h.le, pow_zero, mul_one, pow_one]) x,
    intervalIntegral.integral_sub ((los_pow_intervalIntegrable x 0 _ _).const_mul R) (los_pow_intervalIntegrable x 1 _ _),
    intervalIntegral.integral_const_mul]
  change 2 * (R * J x 0 0 _ - J x 1 0 _) = _
  rw [J_zero, sub_zero]

theorem abel_ramp (R x : ℝ) (hR : 0 ≤ R) (hx : 0 ≤ x) :
    Abel (ramp R) x = if x < R then
        Real.sqrt (R ^ 2 - x ^ 2) * R - x ^ 2 * Real.log (Real.sqrt (R ^ 2 - x ^ 2) + R) + x ^ 2 * Real.log x
      else 0 := by
  split_ifs with hlt
  · rw [abel_ramp_chord R x hR, J_one x le_rfl (hc_nonneg _), los_hc hx hlt.le, los_zero_arg hx, zero_add, hc_eq_sqrt]
    ring
  · exact abel_eq_zero_of_support (fun _ => ramp_zero_of_le) (not_lt.mp hlt)

/-- `(R − r)₊²` -/
noncomputable def qramp (R : ℝ) (r : ℝ) : ℝ := (max 0 (R - r)) ^ 2

theorem qramp_continuous (R : ℝ) : Continuous (qramp R) := by unfold qramp; fun_prop

theorem qramp_zero_of_le {R r : ℝ} (h : R ≤ r) : qramp R r = 0 := by
  unfold qramp; rw [max_eq_left (sub_nonpos.mpr h), zero_pow two_ne_zero]

theorem qramp_of_le {R r : ℝ} (h : r ≤ R) : qramp R r = (R - r) ^ 2 := by
  unfold qramp; rw [max_eq_right (sub_nonneg.mpr h)]

theorem losInt_qramp (R x : ℝ) : LosInt (qramp R) x :=
  losInt_of_continuous (qramp_continuous R) (fun _ => qramp_zero_of_le) x

theorem abel_qramp_nonpos (R x : ℝ) (hR : R ≤ 0) : Abel (qramp R) x = 0 :=
  (abel_congr_nonneg x fun _ hr => qramp_zero_of_le (hR.trans hr)).trans
    (abel_eq_zero_of_support (R := x) (fun _ _ => rfl) le_rfl)

theorem abel_qramp (R x : ℝ) (hR : 0 ≤ R) (hx : 0 ≤ x) :
    Abel (qramp R) x = if x < R then
        Real.sqrt (R ^ 2 - x ^ 2) * (2 / 3 * R ^ 2 + 4 / 3 * x ^ 2)
          - 2 * R * x ^ 2 * Real.log (Real.sqrt (R ^ 2 - x ^ 2) + R) + 2 * R * x ^ 2 * Real.log x
      else 0 := by
  split_ifs with hlt
  · have i0 := (los_pow_intervalIntegrable x 0 0 (hc (R ^ 2 - x ^ 2))).const_mul (R ^ 2)
    have i1 := (los_pow_intervalIntegrable x 1 0 (hc (R ^ 2 - x ^ 2))).const_mul (2 * R)
    rw [abel_of_support hR (fun _ => qramp_zero_of_le) (g := fun r => R ^ 2 * r ^ 0 - 2 * R * r ^ 1 + r ^ 2)
        (fun r h => by rw [qramp_of_le h.le]; ring) x,
      intervalIntegral.integral_add (i0.sub i1) (los_pow_intervalIntegrable x 2 _ _), intervalIntegral.integral_sub i0 i1,
      intervalIntegral.integral_const_mul, intervalIntegral.integral_const_mul]
    change 2 * (R ^ 2 * J x 0 0 _ - 2 * R * J x 1 0 _ + J x 2 0 _) = _
    have h2 := J_reduction x 0 le_rfl (hc_nonneg (R ^ 2 - x ^ 2))
    rw [J_zero, los_hc hx hlt.le] at h2
    rw [J_zero, J_one x le_rfl (hc_nonneg _), los_hc hx hlt.le, los_zero_arg hx, zero_add]
    rw [hc_eq_sqrt] at h2 ⊢
    linear_combination (2 / 3 : ℝ) * h2
  · exact abel_eq_zero_of_support (fun _ => qramp_zero_of_le) (not_lt.mp hlt)

end PyAbel
