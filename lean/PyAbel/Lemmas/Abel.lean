/-
The Abel transform as a line-of-sight integral

  Abel f x = 2 ∫_{z>0} f(√(x² + z²)) dz

and the one computation everything else rests on: a source restricted to the radii `[a, b)` is seen only between the
half-chords `hc (a² − x²) ≤ z < hc (b² − x²)` (`abel_indicator_Ico`, `losInt_indicator_Ico`), in particular a source that
vanishes from radius `R` on only for `z ≤ hc (R² − x²)` (`abel_of_support`).
All analysis statements are phrased with this definition: no singular kernels appear.
-/
import Mathlib.MeasureTheory.Integral.IntervalIntegral.Basic
import Mathlib.MeasureTheory.Measure.Lebesgue.Basic
import Mathlib.Analysis.Real.Sqrt
import Mathlib.Tactic.Linarith
import Mathlib.Tactic.Positivity

open MeasureTheory Set

namespace PyAbel

/-- line-of-sight (Abel) integral at distance `x` from the axis -/
noncomputable def Abel (f : ℝ → ℝ) (x : ℝ) : ℝ := 2 * ∫ z in Ioi (0 : ℝ), f (Real.sqrt (x ^ 2 + z ^ 2))

/-- half-chord: `√(max 0 t)` -/
noncomputable def hc (t : ℝ) : ℝ := Real.sqrt (max 0 t)

/-- radius along the line of sight -/
noncomputable def los (x z : ℝ) : ℝ := Real.sqrt (x ^ 2 + z ^ 2)

/-- the integrand of `Abel f x` is integrable along the line of sight -/
def LosInt (f : ℝ → ℝ) (x : ℝ) : Prop := IntegrableOn (fun z => f (Real.sqrt (x ^ 2 + z ^ 2))) (Ioi (0 : ℝ))

theorem hc_nonneg (t : ℝ) : 0 ≤ hc t := Real.sqrt_nonneg _

theorem hc_mono {s t : ℝ} (h : s ≤ t) : hc s ≤ hc t := Real.sqrt_le_sqrt (max_le_max (le_refl 0) h)

theorem hc_of_nonpos {t : ℝ} (h : t ≤ 0) : hc t = 0 := by unfold hc; rw [max_eq_left h, Real.sqrt_zero]

/-- `Real.sqrt` already vanishes on the negative reals: the `max` in `hc` only makes that visible -/
theorem hc_eq_sqrt (t : ℝ) : hc t = Real.sqrt t := by
  rcases le_total 0 t with h | h
  · unfold hc; rw [max_eq_right h]
  · rw [hc_of_nonpos h, Real.sqrt_eq_zero_of_nonpos h]

theorem hc_sq_sub_of_le {b x : ℝ} (hb : 0 ≤ b) (h : b ≤ x) : hc (b ^ 2 - x ^ 2) = 0 :=
  hc_of_nonpos (sub_nonpos.mpr (pow_le_pow_left₀ hb h 2))

theorem hc_sq_sub_zero {b : ℝ} (hb : 0 ≤ b) : hc (b ^ 2 - 0 ^ 2) = b := by
  rw [zero_pow two_ne_zero, sub_zero, hc_eq_sqrt, Real.sqrt_sq hb]

theorem los_continuous (x : ℝ) : Continuous (los x) := by unfold los; fun_prop

theorem los_nonneg (x z : ℝ) : 0 ≤ los x z := Real.sqrt_nonneg _

theorem los_sq (x z : ℝ) : los x z ^ 2 = x ^ 2 + z ^ 2 := Real.sq_sqrt (by positivity)

theorem los_pos_of_pos {x : ℝ} (hx : 0 < x) (z : ℝ) : 0 < los x z := Real.sqrt_pos.mpr (by positivity)

theorem los_pos_of_pos_right (x : ℝ) {z : ℝ} (hz : 0 < z) : 0 < los x z := Real.sqrt_pos.mpr (by positivity)

theorem le_los (x z : ℝ) : x ≤ los x z :=
  (le_abs_self x).trans (Real.abs_le_sqrt (le_add_of_nonneg_right (sq_nonneg z)))

theorem los_zero_of_nonneg {z : ℝ} (hz : 0 ≤ z) : los 0 z = z := by
  unfold los; rw [zero_pow two_ne_zero, zero_add, Real.sqrt_sq hz]

theorem los_zero_arg {x : ℝ} (hx : 0 ≤ x) : los x 0 = x := by
  unfold los; rw [zero_pow two_ne_zero, add_zero, Real.sqrt_sq hx]

theorem los_hc {x b : ℝ} (hx : 0 ≤ x) (hxb : x ≤ b) : los x (hc (b ^ 2 - x ^ 2)) = b := by
  unfold los
  rw [hc_eq_sqrt, Real.sq_sqrt (sub_nonneg.mpr (pow_le_pow_left₀ hx hxb 2)), add_sub_cancel, Real.sqrt_sq (hx.trans hxb)]

/-- `z + ρ` where the line of sight leaves the ball of radius `b` … -/
theorem hc_add_los_of_ge {x b : ℝ} (hx : 0 ≤ x) (hxb : x ≤ b) :
    hc (b ^ 2 - x ^ 2) + los x (hc (b ^ 2 - x ^ 2)) = Real.sqrt (b ^ 2 - x ^ 2) + b := by
  rw [los_hc hx hxb, hc_eq_sqrt]

/-- … and at its foot (`z = 0`, `ρ = x`) if it passes outside that ball -/
theorem hc_add_los_of_le {x b : ℝ} (hb : 0 ≤ b) (hbx : b ≤ x) : hc (b ^ 2 - x ^ 2) + los x (hc (b ^ 2 - x ^ 2)) = x := by
  rw [hc_sq_sub_of_le hb hbx, los_zero_arg (hb.trans hbx), zero_add]

theorem radius_mem_Ico_iff {a b x z : ℝ} (ha : 0 ≤ a) (hb : 0 ≤ b) (hz : 0 < z) :
    Real.sqrt (x ^ 2 + z ^ 2) ∈ Ico a b ↔ z ∈ Ico (hc (a ^ 2 - x ^ 2)) (hc (b ^ 2 - x ^ 2)) := by
  have hpos : 0 ≤ x ^ 2 + z ^ 2 := by positivity
  rw [mem_Ico, mem_Ico, Real.le_sqrt ha hpos, Real.sqrt_lt hpos hb, hc_eq_sqrt, hc_eq_sqrt, Real.sqrt_le_left hz.le,
    Real.lt_sqrt hz.le, sub_le_iff_le_add', lt_sub_iff_add_lt']

/-- the two sides of `abel_indicator_Ico` have the same integrand along `z > 0` -/
theorem indicator_Ico_los (g : ℝ → ℝ) {a b : ℝ} (x : ℝ) (ha : 0 ≤ a) (hab : a ≤ b) {z : ℝ} (hz : z ∈ Ioi (0 : ℝ)) :
    indicator (Ico a b) g (Real.sqrt (x ^ 2 + z ^ 2))
      = indicator (Ico (hc (a ^ 2 - x ^ 2)) (hc (b ^ 2 - x ^ 2))) (fun z => g (los x z)) z := by
  simp only [indicator_apply, radius_mem_Ico_iff ha (ha.trans hab) hz, los]

theorem abel_indicator_Ico (g : ℝ → ℝ) {a b : ℝ} (x : ℝ) (ha : 0 ≤ a) (hab : a ≤ b) :
    Abel (indicator (Ico a b) g) x = 2 * ∫ z in hc (a ^ 2 - x ^ 2)..hc (b ^ 2 - x ^ 2), g (los x z) := by
  have hAB : hc (a ^ 2 - x ^ 2) ≤ hc (b ^ 2 - x ^ 2) :=
    hc_mono (sub_le_sub_right (pow_le_pow_left₀ ha hab 2) _)
  unfold Abel
  rw [setIntegral_congr_fun measurableSet_Ioi fun z => indicator_Ico_los g x ha hab, ← integral_Ici_eq_integral_Ioi,
    setIntegral_indicator measurableSet_Ico, inter_eq_right.mpr (Ico_subset_Ici_self.trans (Ici_subset_Ici.mpr (hc_nonneg _))),
    integral_Ico_eq_integral_Ioc, ← intervalIntegral.integral_of_le hAB]

theorem losInt_indicator_Ico {g : ℝ → ℝ} {a b x : ℝ} (ha : 0 ≤ a) (hab : a ≤ b) (hg : Continuous fun z => g (los x z)) :
    LosInt (indicator (Ico a b) g) x :=
  (((hg.integrableOn_Icc.mono_set Ico_subset_Icc_self).integrable_indicator measurableSet_Ico).integrableOn).congr_fun
    (fun _ hz => (indicator_Ico_los g x ha hab hz).symm) measurableSet_Ioi

/-- through the centre `ρ = z` -/
theorem abel_indicator_Ico_axis (g : ℝ → ℝ) {a b : ℝ} (ha : 0 ≤ a) (hab : a ≤ b) :
    Abel (indicator (Ico a b) g) 0 = 2 * ∫ z in a..b, g z := by
  rw [abel_indicator_Ico g 0 ha hab, hc_sq_sub_zero ha, hc_sq_sub_zero (ha.trans hab)]
  exact congrArg (2 * ·) (intervalIntegral.integral_congr fun z hz =>
    congrArg g (los_zero_of_nonneg (ha.trans ((uIcc_of_le hab).subset hz).1)))

theorem losInt_indicator_Ico_axis (g : ℝ → ℝ) {a b : ℝ} (hg : ContinuousOn g (Icc a b)) : LosInt (indicator (Ico a b) g) 0 :=
  ((hg.integrableOn_Icc.mono_set Ico_subset_Icc_self).integrable_indicator measurableSet_Ico).integrableOn.congr_fun
    (fun _ hz => congrArg _ (los_zero_of_nonneg (le_of_lt hz)).symm) measurableSet_Ioi

/-- **Abel transform of a shell**: the indicator of `[a, b)` projects to twice the difference of the half-chords -/
theorem abel_shell (a b x : ℝ) (ha : 0 ≤ a) (hab : a ≤ b) :
    Abel (indicator (Ico a b) 1) x = 2 * (hc (b ^ 2 - x ^ 2) - hc (a ^ 2 - x ^ 2)) := by
  rw [abel_indicator_Ico 1 x ha hab]
  simp only [Pi.one_apply, intervalIntegral.integral_const, smul_eq_mul, mul_one]

theorem losInt_shell (a b x : ℝ) (ha : 0 ≤ a) (hab : a ≤ b) : LosInt (indicator (Ico a b) 1) x :=
  losInt_indicator_Ico ha hab continuous_const

theorem abel_congr_los {f g : ℝ → ℝ} {x : ℝ} (h : ∀ z, 0 < z → f (los x z) = g (los x z)) : Abel f x = Abel g x :=
  congrArg (2 * ·) (setIntegral_congr_fun measurableSet_Ioi h)

theorem LosInt.congr_los {f g : ℝ → ℝ} {x : ℝ} (hf : LosInt f x) (h : ∀ z, 0 < z → f (los x z) = g (los x z)) : LosInt g x :=
  IntegrableOn.congr_fun hf h measurableSet_Ioi

theorem abel_congr_nonneg {f g : ℝ → ℝ} (x : ℝ) (h : ∀ r, 0 ≤ r → f r = g r) : Abel f x = Abel g x :=
  abel_congr_los fun z _ => h _ (los_nonneg x z)

theorem LosInt.congr_nonneg {f g : ℝ → ℝ} {x : ℝ} (hg : LosInt g x) (h : ∀ r, 0 ≤ r → f r = g r) : LosInt f x :=
  hg.congr_los fun z _ => (h _ (los_nonneg x z)).symm

theorem eq_indicator_of_support {f g : ℝ → ℝ} {R : ℝ} (h0 : ∀ r, R ≤ r → f r = 0) (hg : ∀ r, r < R → f r = g r)
    {r : ℝ} (hr : 0 ≤ r) : f r = indicator (Ico 0 R) g r := by
  rcases lt_or_ge r R with h | h
  · rw [indicator_of_mem (mem_Ico.mpr ⟨hr, h⟩), hg r h]
  · rw [indicator_of_notMem (fun hm => absurd hm.2 (not_lt.mpr h)), h0 r h]

theorem abel_of_support {f g : ℝ → ℝ} {R : ℝ} (hR : 0 ≤ R) (h0 : ∀ r, R ≤ r → f r = 0) (hg : ∀ r, r < R → f r = g r) (x : ℝ) :
    Abel f x = 2 * ∫ z in (0 : ℝ)..hc (R ^ 2 - x ^ 2), g (los x z) := by
  rw [abel_congr_nonneg x fun r => eq_indicator_of_support h0 hg, abel_indicator_Ico g x le_rfl hR,
    hc_of_nonpos (sub_nonpos.mpr ((zero_pow two_ne_zero).trans_le (sq_nonneg x)))]

theorem abel_eq_zero_of_support {f : ℝ → ℝ} {R x : ℝ} (h0 : ∀ r, R ≤ r → f r = 0) (hRx : R ≤ x) : Abel f x = 0 := by
  rw [abel_congr_los (g := fun _ => 0) fun z _ => h0 _ (hRx.trans (le_los x z))]
  unfold Abel
  rw [integral_zero, mul_zero]

theorem losInt_of_support {f : ℝ → ℝ} {R x : ℝ} (h0 : ∀ r, R ≤ r → f r = 0) (hf : Continuous fun z => f (los x z)) :
    LosInt f x :=
  (losInt_indicator_Ico le_rfl (le_max_left 0 R) hf).congr_los fun z _ =>
    (eq_indicator_of_support (fun r hr => h0 r ((le_max_right 0 R).trans hr)) (fun _ _ => rfl) (los_nonneg x z)).symm

theorem losInt_of_continuous {f : ℝ → ℝ} (hf : Continuous f) {R : ℝ} (hsupp : ∀ r, R ≤ r → f r = 0) (x : ℝ) : LosInt f x :=
  losInt_of_support hsupp (hf.comp (los_continuous x))

end PyAbel
