/-
Line-of-sight integrals of powers of the direction cosine  f = x/ρ  (ρ = √(x² + z²)):

    F n z = ∫₀^z (x/ρ)ⁿ dt

  * F 0 = z,  F 1 = x (ln(z + ρ) − ln x),  F 2 = x arctan(z/x) = x arccos(x/ρ)
  * reduction  (1 − k) ∫ fᵏ = [t fᵏ] − k ∫ fᵏ⁺²                (FTC applied to t ↦ t f(t)ᵏ, for every integer k);
               for k = m ≥ 0:  m · F (m+2) = z fᵐ + (m − 1) · F m
  * the Abel integral of a ramp times a power of the direction cosine:
        2 ∫ (R − ρ)₊ (x/ρ)ⁿ⁺¹ dz = 2 (R · F (n+1) y − x · F n y),   y = half-chord at radius R
  * the same integrals for every integer exponent,  Fz k z = ∫₀^z (x/ρ)ᵏ  (negative k: powers of ρ/x), with the reduction read
    upwards and downwards.  `Fint n` is `Fz n` at a natural exponent (`Fz_natCast`): statements about rBasex's `F[n]` use `Fint`,
    those about `SPolynomial`'s `F(k)`, and the integral between two heights (`Fz_sub`), use `Fz`
These are the integrals behind rBasex's radial basis projections `p_{R;n}(r)`; `abel.tools.polynomial.SPolynomial` uses the
recursion downwards (k < 0) as well.
-/
import PyAbel.Lemmas.AbelRamp
import Mathlib.Analysis.SpecialFunctions.Trigonometric.ArctanDeriv
import Mathlib.Analysis.Calculus.Deriv.ZPow

open MeasureTheory Set

namespace PyAbel

/-- the direction cosine `x/ρ` along the line of sight -/
noncomputable def fr (x z : ℝ) : ℝ := x / los x z

/-- `F n z = ∫₀^z (x/ρ)ⁿ` -/
noncomputable def Fint (x : ℝ) (n : ℕ) (z : ℝ) : ℝ := ∫ t in (0 : ℝ)..z, fr x t ^ n

/-- `Fz k z = ∫₀^z (x/ρ)ᵏ`, `k ∈ ℤ` -/
noncomputable def Fz (x : ℝ) (k : ℤ) (z : ℝ) : ℝ := ∫ t in (0 : ℝ)..z, fr x t ^ k

theorem Fz_natCast (x : ℝ) (n : ℕ) (z : ℝ) : Fz x (n : ℤ) z = Fint x n z := by
  unfold Fz Fint; simp only [zpow_natCast]

theorem fr_pos {x : ℝ} (hx : 0 < x) (z : ℝ) : 0 < fr x z := div_pos hx (los_pos_of_pos hx z)

theorem fr_continuous {x : ℝ} (hx : 0 < x) : Continuous (fr x) := by
  unfold fr
  exact continuous_const.div (los_continuous x) (fun z => (los_pos_of_pos hx z).ne')

theorem fr_zpow_continuous {x : ℝ} (hx : 0 < x) (k : ℤ) : Continuous fun t => fr x t ^ k :=
  (fr_continuous hx).zpow₀ k (fun t => Or.inl (fr_pos hx t).ne')

theorem hasDerivAt_fr {x : ℝ} (hx : 0 < x) (z : ℝ) : HasDerivAt (fr x) (-(fr x z * z / los x z ^ 2)) z := by
  have hpos := los_pos_of_pos hx z
  refine ((hasDerivAt_const z x).div (hasDerivAt_los hpos) hpos.ne').congr_deriv ?_
  rw [fr]
  ring

theorem Fint_zero (x z : ℝ) : Fint x 0 z = z := by
  unfold Fint; simp

theorem hasDerivAt_t_fr_zpow {x : ℝ} (hx : 0 < x) (k : ℤ) (z : ℝ) :
    HasDerivAt (fun t => t * fr x t ^ k) ((1 - (k : ℝ)) * fr x z ^ k + (k : ℝ) * fr x z ^ (k + 2)) z := by
  have hf := (fr_pos hx z).ne'
  have hl := (los_pos_of_pos hx z).ne'
  refine ((hasDerivAt_id z).mul ((hasDerivAt_zpow k _ (Or.inl hf)).comp z (hasDerivAt_fr hx z))).congr_deriv ?_
  rw [id, one_mul, Function.comp_apply, zpow_add₀ hf, zpow_sub_one₀ hf, zpow_ofNat,
    show fr x z ^ 2 = x ^ 2 / los x z ^ 2 from div_pow _ _ _]
  field_simp
  linear_combination (k : ℝ) * los_sq x z

theorem Fz_rec {x : ℝ} (hx : 0 < x) (k : ℤ) (z : ℝ) :
    (1 - (k : ℝ)) * Fz x k z = z * fr x z ^ k - (k : ℝ) * Fz x (k + 2) z := by
  have i1 := ((fr_zpow_continuous hx k).const_mul (1 - (k : ℝ))).intervalIntegrable (μ := volume) 0 z
  have i2 := ((fr_zpow_continuous hx (k + 2)).const_mul (k : ℝ)).intervalIntegrable (μ := volume) 0 z
  have h := intervalIntegral.integral_eq_sub_of_hasDerivAt (fun t _ => hasDerivAt_t_fr_zpow hx k t) (i1.add i2)
  rw [intervalIntegral.integral_add i1 i2, intervalIntegral.integral_const_mul, intervalIntegral.integral_const_mul] at h
  unfold Fz
  linear_combination h

theorem Fint_rec {x : ℝ} (hx : 0 < x) (m : ℕ) (z : ℝ) :
    (m : ℝ) * Fint x (m + 2) z = z * fr x z ^ m + ((m : ℝ) - 1) * Fint x m z := by
  have h := Fz_rec hx m z
  rw [show (m : ℤ) + 2 = ((m + 2 : ℕ) : ℤ) from rfl, Fz_natCast, Fz_natCast, zpow_natCast, Int.cast_natCast] at h
  linear_combination h

/-- the reduction formula read downwards, at the index `k = −m`: the recursion of `SPolynomial`'s `F(k)` for `k < 0` -/
theorem Fz_rec_neg {x : ℝ} (hx : 0 < x) (m : ℕ) (z : ℝ) :
    ((m : ℝ) + 1) * Fz x (-(m : ℤ)) z = z * (fr x z)⁻¹ ^ m + (m : ℝ) * Fz x (2 - (m : ℤ)) z := by
  have h := Fz_rec hx (-(m : ℤ)) z
  rw [Int.cast_neg, Int.cast_natCast, zpow_neg, zpow_natCast, ← inv_pow, neg_add_eq_sub] at h
  linear_combination h

theorem Fz_sub {x : ℝ} (hx : 0 < x) (k : ℤ) (a b : ℝ) : Fz x k b - Fz x k a = ∫ t in a..b, fr x t ^ k := by
  unfold Fz
  have c := fr_zpow_continuous hx k
  rw [intervalIntegral.integral_interval_sub_left (c.intervalIntegrable 0 b) (c.intervalIntegrable 0 a)]

theorem Fint_one {x : ℝ} (hx : 0 < x) (z : ℝ) (hz : 0 ≤ z) :
    Fint x 1 z = x * (Real.log (z + los x z) - Real.log x) := by
  have hd : ∀ t ∈ uIcc (0 : ℝ) z, HasDerivAt (fun t => x * Real.log (t + los x t)) (fr x t ^ 1) t := by
    intro t ht
    rw [uIcc_of_le hz] at ht
    have hs := los_pos_of_pos hx t
    refine ((hasDerivAt_log_add_los hs (add_pos_of_nonneg_of_pos ht.1 hs)).const_mul x).congr_deriv ?_
    rw [pow_one, fr, mul_one_div]
  unfold Fint
  rw [intervalIntegral.integral_eq_sub_of_hasDerivAt hd (((fr_continuous hx).pow 1).intervalIntegrable 0 z),
    los_zero_arg hx.le, zero_add]
  ring

theorem Fint_two {x : ℝ} (hx : 0 < x) (z : ℝ) : Fint x 2 z = x * Real.arctan (z / x) := by
  have hd : ∀ t ∈ uIcc (0 : ℝ) z, HasDerivAt (fun t => x * Real.arctan (t / x)) (fr x t ^ 2) t := fun t _ => by
    refine (((hasDerivAt_id' t).div_const x).arctan.const_mul x).congr_deriv ?_
    rw [fr, div_pow x, los_sq]
    field_simp
  rw [Fint, intervalIntegral.integral_eq_sub_of_hasDerivAt hd (((fr_continuous hx).pow 2).intervalIntegrable 0 z)]
  simp

theorem arccos_fr {x : ℝ} (hx : 0 < x) (z : ℝ) (hz : 0 ≤ z) : Real.arccos (fr x z) = Real.arctan (z / x) := by
  have hpos := los_pos_of_pos hx z
  have h2 := pow_ne_zero 2 hpos.ne'
  have e : 1 - fr x z ^ 2 = (z / los x z) ^ 2 := by
    rw [fr, div_pow, div_pow, eq_div_iff h2, sub_mul, one_mul, div_mul_cancel₀ _ h2, los_sq, add_sub_cancel_left]
  rw [Real.arccos_eq_arctan (fr_pos hx z), e, Real.sqrt_sq (div_nonneg hz hpos.le), fr, div_div_div_cancel_right₀ hpos.ne']

theorem losInt_mul_fr_pow {x : ℝ} (hx : 0 < x) {φ : ℝ → ℝ} (hφ : Continuous φ) {B : ℝ} (hsupp : ∀ ρ, B ≤ ρ → φ ρ = 0) (n : ℕ) :
    LosInt (fun ρ => φ ρ * (x / ρ) ^ n) x :=
  losInt_of_support (fun ρ h => by rw [hsupp ρ h, zero_mul]) ((hφ.comp (los_continuous x)).mul ((fr_continuous hx).pow n))

theorem abel_ramp_frac {x : ℝ} (hx : 0 < x) (R : ℝ) (hR : 0 ≤ R) (n : ℕ) :
    Abel (fun ρ => ramp R ρ * (x / ρ) ^ (n + 1)) x
      = 2 * (R * Fint x (n + 1) (hc (R ^ 2 - x ^ 2)) - x * Fint x n (hc (R ^ 2 - x ^ 2))) := by
  have e : ∀ z, (R - los x z) * (x / los x z) ^ (n + 1) = R * fr x z ^ (n + 1) - x * fr x z ^ n := fun z => by
    rw [fr]
    linear_combination -(x / los x z) ^ n * mul_div_cancel₀ x (los_pos_of_pos hx z).ne'
  have c : ∀ (a : ℝ) (m : ℕ), IntervalIntegrable (fun t => a * fr x t ^ m) volume 0 (hc (R ^ 2 - x ^ 2)) := fun a m =>
    (((fr_continuous hx).pow m).const_mul a).intervalIntegrable 0 _
  rw [abel_ramp_mul R x hR, intervalIntegral.integral_congr fun z _ => e z, intervalIntegral.integral_sub (c R _) (c x _),
    intervalIntegral.integral_const_mul, intervalIntegral.integral_const_mul]
  rfl

end PyAbel
