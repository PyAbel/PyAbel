/-
The model's own arithmetic helpers are Mathlib's: `Repr.choose` (Pascal's rule; the `cossin` matrices of
Model/Representations.lean and Model/Polynomial.lean) is `Nat.choose`, `Distr.pow` (repeated multiplication, as the model runs it
over `Float`) is `^`, `Distr.lsum` (left fold) is `List.sum`.  (`sumRange` has its bridge to `Finset.sum` in Lemmas/Linalg.lean.)
-/
import PyAbel.Model.Representations
import PyAbel.Model.Distributions
import Mathlib.Data.Nat.Choose.Basic
import Mathlib.Algebra.BigOperators.Group.List.Basic
import Mathlib.Algebra.Field.Defs

namespace PyAbel

theorem Repr.choose_eq_choose (n k : ℕ) : Repr.choose n k = Nat.choose n k := by
  induction n generalizing k with
  | zero => cases k <;> simp [Repr.choose]
  | succ n ih => cases k <;> simp [Repr.choose, ih, Nat.choose_succ_succ]

variable {K : Type} [Field K]

theorem distr_pow_eq (x : K) (n : ℕ) : Distr.pow x n = x ^ n := by
  induction n with
  | zero => rw [Distr.pow, pow_zero]
  | succ n ih => rw [Distr.pow, ih, pow_succ]

theorem Distr.lsum_eq_sum (xs : List K) : Distr.lsum xs = xs.sum := by
  rw [Distr.lsum, List.sum_eq_foldl]

end PyAbel
