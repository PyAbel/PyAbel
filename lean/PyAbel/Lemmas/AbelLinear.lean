/-
Linearity of the line-of-sight integral on integrable integrands, over two terms and over `sumRange`; and its blindness to the
value of the source at a single radius (`abel_congr_except`).
-/
import PyAbel.Lemmas.Abel
import PyAbel.Lemmas.Linalg
import Mathlib.MeasureTheory.Integral.IntervalIntegral.Basic
import Mathlib.MeasureTheory.Function.LocallyIntegrable

open MeasureTheory Set

namespace PyAbel

theorem abel_add {f g : ℝ → ℝ} {x : ℝ} (hf : LosInt f x) (hg : LosInt g x) :
    Abel (fun r => f r + g r) x = Abel f x + Abel g x := by
  unfold Abel
  rw [integral_add hf hg, mul_add]

theorem abel_sub {f g : ℝ → ℝ} {x : ℝ} (hf : LosInt f x) (hg : LosInt g x) :
    Abel (fun r => f r - g r) x = Abel f x - Abel g x := by
  unfold Abel
  rw [integral_sub hf hg, mul_sub]

theorem abel_const_mul (A : ℝ) (f : ℝ → ℝ) (x : ℝ) : Abel (fun r => A * f r) x = A * Abel f x := by
  unfold Abel
  rw [integral_const_mul, mul_left_comm]

theorem abel_congr_except {f g : ℝ → ℝ} (r0 x : ℝ) (h : ∀ r, r ≠ r0 → f r = g r) : Abel f x = Abel g x := by
  unfold Abel
  congr 1
  apply setIntegral_congr_ae measurableSet_Ioi
  have hc : ∀ᵐ z ∂(volume : Measure ℝ), z ∉ ({Real.sqrt (r0 ^ 2 - x ^ 2)} : Set ℝ) :=
    (Set.countable_singleton _).ae_notMem volume
  filter_upwards [hc] with z hz hz0
  apply h
  intro he
  apply hz
  rw [Set.mem_singleton_iff, ← he, Real.sq_sqrt (by positivity), add_sub_cancel_left, Real.sqrt_sq hz0.le]

theorem LosInt.add {f g : ℝ → ℝ} {x : ℝ} (hf : LosInt f x) (hg : LosInt g x) : LosInt (fun r => f r + g r) x :=
  Integrable.add hf hg

theorem LosInt.sub {f g : ℝ → ℝ} {x : ℝ} (hf : LosInt f x) (hg : LosInt g x) : LosInt (fun r => f r - g r) x :=
  Integrable.sub hf hg

theorem LosInt.const_mul {f : ℝ → ℝ} {x : ℝ} (A : ℝ) (hf : LosInt f x) : LosInt (fun r => A * f r) x :=
  Integrable.const_mul hf A

theorem LosInt.zero (x : ℝ) : LosInt (fun _ => (0 : ℝ)) x := by
  unfold LosInt; exact integrableOn_zero

theorem abel_sumRange (n : ℕ) (c : ℕ → ℝ) (g : ℕ → ℝ → ℝ) (x : ℝ) (hg : ∀ j, j < n → LosInt (g j) x) :
    Abel (fun r => sumRange n fun j => c j * g j r) x = sumRange n (fun j => c j * Abel (g j) x)
    ∧ LosInt (fun r => sumRange n fun j => c j * g j r) x := by
  induction n with
  | zero =>
    refine ⟨?_, LosInt.zero x⟩
    simp [sumRange, Abel]
  | succ n ih =>
    obtain ⟨h1, h2⟩ := ih (fun j hj => hg j (Nat.lt_succ_of_lt hj))
    have h3 : LosInt (fun r => c n * g n r) x := (hg n n.lt_succ_self).const_mul _
    refine ⟨?_, by simpa [sumRange] using h2.add h3⟩
    simp only [sumRange]
    rw [abel_add h2 h3, h1, abel_const_mul]

end PyAbel
