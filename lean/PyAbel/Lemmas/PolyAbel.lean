/-
`Polynomial.abel` is the Abel integral of `Polynomial.func`: the algebra of the coefficient recursion (`abelA` satisfies the
reduction formula of the integrals `J`) and the assembly over monomials.
-/
import PyAbel.Lemmas.AbelPoly
import PyAbel.Lemmas.RealInst
import PyAbel.Lemmas.ModelArith
import PyAbel.Model.Polynomial

open MeasureTheory Set

namespace PyAbel
open PyAbel.Poly

theorem abelC_shift (n i : ℕ) : (abelC (n + 2) (i + 1) : ℝ) = ((n : ℝ) + 2) / ((n : ℝ) + 3) * abelC n i := by
  induction i with
  | zero =>
    simp only [abelC]
    push_cast
    ring
  | succ i ih =>
    rw [abelC, ih, abelC, mul_add_one, Nat.add_sub_add_right]
    ring

/-- **the coded sum satisfies the reduction formula** -/
theorem abelA_reduction (n : ℕ) (x2 : ℝ) (D : ℕ → ℝ) (Dln : ℝ) :
    abelA (n + 2) x2 D Dln = D (n + 2) / ((n : ℝ) + 3) + ((n : ℝ) + 2) / ((n : ℝ) + 3) * x2 * abelA n x2 D Dln := by
  unfold abelA
  -- the first term of the sum, the other terms shifted by one, and the logarithm's term for odd `n`
  rw [Nat.add_div_right n two_pos, Nat.add_mod_right, sumRange_succ', mul_add, ← sumRange_smul, add_assoc]
  congr 1
  · simp only [abelC, Distr.pow]; push_cast; ring
  congr 1
  · exact sumRange_congr _ _ _ fun j _ => by rw [abelC_shift, mul_add_one, Nat.add_sub_add_right, Distr.pow]; ring
  · split_ifs
    · rw [abelC_shift, Distr.pow]; ring
    · rw [mul_zero]

theorem abelA_deg_zero (x2 : ℝ) (D : ℕ → ℝ) (L : ℝ) : abelA 0 x2 D L = D 0 := by
  simp [abelA, abelC, sumRange, Distr.pow]

theorem abelA_deg_one (x2 : ℝ) (D : ℕ → ℝ) (L : ℝ) : abelA 1 x2 D L = (D 1 + x2 * L) / 2 := by
  simp [abelA, abelC, sumRange, Distr.pow]; ring

theorem abelA_eq_J (x : ℝ) {a b : ℝ} (ha : 0 ≤ a) (hab : a ≤ b) (k : ℕ) :
    abelA k (x ^ 2) (fun p => los x b ^ p * b - los x a ^ p * a) (Real.log (los x b + b) - Real.log (los x a + a))
      = J x k a b := by
  induction k using Nat.twoStepInduction with
  | zero => rw [abelA_deg_zero, J_zero, pow_zero, pow_zero, one_mul, one_mul]
  | one => rw [abelA_deg_one, J_one x ha hab, pow_one, pow_one, add_comm b, add_comm a]; ring
  | more n ih _ =>
    rw [abelA_reduction, ih]
    have h := J_reduction x n ha hab
    have h3 : ((n : ℝ) + 3) ≠ 0 := by positivity
    field_simp
    linear_combination -h

/-- `r ↦ rᵏ` on `[r₁, r₂)`, zero elsewhere -/
noncomputable def monoPiece (r1 r2 : ℝ) (k : ℕ) : ℝ → ℝ := indicator (Ico r1 r2) (fun r => r ^ k)

theorem losInt_monoPiece (r1 r2 x : ℝ) (k : ℕ) (h1 : 0 ≤ r1) (h12 : r1 ≤ r2) : LosInt (monoPiece r1 r2 k) x :=
  losInt_indicator_Ico h1 h12 ((los_continuous x).pow k)

theorem abel_monoPiece (r1 r2 x : ℝ) (k : ℕ) (h1 : 0 ≤ r1) (h12 : r1 ≤ r2) :
    Abel (monoPiece r1 r2 k) x = 2 * J x k (hc (r1 ^ 2 - x ^ 2)) (hc (r2 ^ 2 - x ^ 2)) :=
  abel_indicator_Ico _ x h1 h12

/-- on the reals the guarded square root of `Polynomial.abel` is the half-chord -/
theorem sqrt0_eq_hc (t : ℝ) : (sqrt0 t : ℝ) = hc t := by
  unfold sqrt0
  split_ifs with h
  · rw [sqrt_real, hc_eq_sqrt]
  · rw [hc_of_nonpos (not_lt.mp h)]

/-- … and its guarded logarithm is `Real.log`, whose value at 0 is 0 as well -/
theorem ln0_eq_log {t : ℝ} (ht : 0 ≤ t) : (ln0 t : ℝ) = Real.log t := by
  unfold ln0
  split_ifs with h
  · rfl
  · rw [le_antisymm (not_lt.mp h) ht, Real.log_zero]

/-- the coded transform in real functions: the guarded square roots are half-chords, the guarded logarithms plain ones, and where the
    line of sight passes inside the inner radius (`r_min < x`) the lower limit of `ln(r + y)` is `ln x` -/
theorem polyAbelAt_eq (N : ℕ) (c : ℕ → ℝ) {rmin rmax x : ℝ} (h0 : 0 ≤ rmin) (hlt : rmin < rmax) (hx : 0 ≤ x) :
    polyAbelAt N c rmin rmax x = sumRange N fun k => c k * 2 * abelA k (x ^ 2)
      (fun p => rmax ^ p * hc (rmax ^ 2 - x ^ 2) - rmin ^ p * hc (rmin ^ 2 - x ^ 2))
      (Real.log (rmax + hc (rmax ^ 2 - x ^ 2)) - Real.log (if rmin < x then x else rmin + hc (rmin ^ 2 - x ^ 2))) := by
  unfold polyAbelAt
  simp only [sqrt0_eq_hc, distr_pow_eq, ← sq, Nat.cast_ofNat]
  rw [ln0_eq_log (add_nonneg (h0.trans hlt.le) (hc_nonneg _))]
  split_ifs with h
  · rw [hc_sq_sub_of_le h0 h.le, add_zero, ln0_eq_log hx]
  · rw [ln0_eq_log (add_nonneg h0 (hc_nonneg _))]

/-- `Polynomial.func` as the sum of its monomial pieces -/
theorem ite_evalN_eq_sum (N : ℕ) (c : ℕ → ℝ) (rmin rmax : ℝ) :
    (fun r => if rmin ≤ r ∧ r < rmax then evalN N c r else 0) = fun r => sumRange N fun k => c k * monoPiece rmin rmax k r := by
  funext r
  unfold monoPiece evalN
  by_cases hm : rmin ≤ r ∧ r < rmax
  · rw [if_pos hm]
    exact sumRange_congr N _ _ fun k _ => by rw [indicator_of_mem (show r ∈ Ico rmin rmax from hm), distr_pow_eq]
  · rw [if_neg hm]
    exact (sumRange_zero N).symm.trans
      (sumRange_congr N _ _ fun k _ => by rw [indicator_of_notMem (show r ∉ Ico rmin rmax from hm), mul_zero])

end PyAbel
