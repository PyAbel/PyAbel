/-
The scalar interface instantiated at ℝ (Mathlib's functions) for the operations most analysis files need — `sqrt`, `log`, `exp`,
`acos`, `π` — and the `rfl` lemmas that read it back; no axioms.  The operations of single properties are instantiated where they
are used (`atan2`, `sin`, `cos`, `abs` in Props/C19.lean, `asin` in Props/C04Recursions.lean).
-/
import PyAbel.Model.Scalar
import PyAbel.Model.Dasch
import Mathlib.Analysis.SpecialFunctions.Pow.Real
import Mathlib.Analysis.SpecialFunctions.Trigonometric.Basic
import Mathlib.Analysis.SpecialFunctions.Trigonometric.Inverse

namespace PyAbel
noncomputable instance : HasSqrt ℝ := ⟨Real.sqrt⟩
noncomputable instance : HasLog ℝ := ⟨Real.log⟩
noncomputable instance : HasExp ℝ := ⟨Real.exp⟩
noncomputable instance : HasAcos ℝ := ⟨Real.arccos⟩
noncomputable instance : HasPi ℝ := ⟨Real.pi⟩

@[simp] theorem sqrt_real (x : ℝ) : (sqrt x : ℝ) = Real.sqrt x := rfl
@[simp] theorem log_real (x : ℝ) : (log x : ℝ) = Real.log x := rfl
@[simp] theorem exp_real (x : ℝ) : (exp x : ℝ) = Real.exp x := rfl
@[simp] theorem pi_real : (HasPi.pi : ℝ) = Real.pi := rfl
end PyAbel
