/-
Lemmas about the linear-algebra model: finite sums, triangular solves.

`sumRange` is a `Finset.sum` over `Finset.range` (`sumRange_eq_sum`); its algebra is Mathlib's, restated for `sumRange`
under the names the development uses.
-/
import PyAbel.Model.Linalg
import Mathlib.Algebra.BigOperators.Ring.Finset
import Mathlib.Algebra.BigOperators.Group.Finset.Sigma
import Mathlib.Algebra.Field.Basic
import Mathlib.Order.Interval.Finset.Nat
import Mathlib.Tactic.Ring

namespace PyAbel
open Finset
variable {K : Type} [Field K]

theorem sumRange_succ (n : Nat) (f : Nat → K) : sumRange (n + 1) f = sumRange n f + f n := rfl

theorem sumRange_eq_sum (n : ℕ) (f : ℕ → K) : sumRange n f = ∑ i ∈ range n, f i := by
  induction n with
  | zero => rfl
  | succ n ih => rw [sumRange_succ, ih, sum_range_succ]

theorem sumRange_add (n : Nat) (f g : Nat → K) :
    sumRange n (fun k => f k + g k) = sumRange n f + sumRange n g := by
  simp only [sumRange_eq_sum, sum_add_distrib]

theorem sumRange_sub (n : Nat) (f g : Nat → K) :
    sumRange n (fun k => f k - g k) = sumRange n f - sumRange n g := by
  simp only [sumRange_eq_sum, sum_sub_distrib]

theorem sumRange_mul_right (n : Nat) (f : Nat → K) (a : K) : sumRange n f * a = sumRange n (fun k => f k * a) := by
  simp only [sumRange_eq_sum, sum_mul]

theorem sumRange_succ' (n : Nat) (f : Nat → K) : sumRange (n + 1) f = f 0 + sumRange n (fun j => f (j + 1)) := by
  rw [sumRange_eq_sum, sumRange_eq_sum, sum_range_succ', add_comm]

theorem sumRange_smul (n : Nat) (a : K) (f : Nat → K) :
    sumRange n (fun k => a * f k) = a * sumRange n f := by
  simp only [sumRange_eq_sum, mul_sum]

theorem sumRange_congr (n : Nat) (f g : Nat → K) (h : ∀ k, k < n → f k = g k) :
    sumRange n f = sumRange n g := by
  simp only [sumRange_eq_sum]
  exact sum_congr rfl fun k hk => h k (mem_range.mp hk)

theorem sumRange_eq_zero (n : ℕ) (f : ℕ → K) (h : ∀ k, k < n → f k = 0) : sumRange n f = 0 := by
  rw [sumRange_eq_sum]
  exact sum_eq_zero fun k hk => h k (mem_range.mp hk)

theorem sumRange_zero (n : Nat) : sumRange n (fun _ => (0 : K)) = 0 :=
  sumRange_eq_zero n _ fun _ _ => rfl

theorem sumRange_split (i m : Nat) (g : Nat → K) :
    sumRange (i + m) g = sumRange i g + sumRange m (fun t => g (i + t)) := by
  simp only [sumRange_eq_sum, sum_range_add]

theorem sumRange_delta (n i : Nat) (hi : i < n) (x : Nat → K) :
    sumRange n (fun j => (if i = j then (1 : K) else 0) * x j) = x i := by
  simp only [sumRange_eq_sum, ite_mul, one_mul, zero_mul, sum_ite_eq, mem_range, hi, if_true]

theorem sumRange_linear (n : ℕ) (a b : K) (f g : ℕ → K) :
    sumRange n (fun k => a * f k + b * g k) = a * sumRange n f + b * sumRange n g := by
  rw [sumRange_add, sumRange_smul, sumRange_smul]

theorem matVec_smul (n : Nat) (M : Nat → Nat → K) (a : K) (x : Nat → K) (i : Nat) :
    matVec n M (fun k => a * x k) i = a * matVec n M x i := by
  simp only [matVec, ← sumRange_smul, mul_left_comm]

theorem matVec_matVec (n : Nat) (A B : Nat → Nat → K) (x : Nat → K) (i : Nat) :
    matVec n A (matVec n B x) i = sumRange n (fun j => sumRange n (fun k => A i k * B k j) * x j) := by
  simp only [matVec, sumRange_eq_sum, mul_sum, sum_mul, mul_assoc]
  exact sum_comm

theorem backSubstAux_length (U : Nat → Nat → K) (d : Nat → K) (n k : Nat) :
    (backSubstAux U d n k).length = k := by
  induction k with
  | zero => rfl
  | succ k ih => rw [backSubstAux, List.length_cons, ih]

theorem dotFrom_eq_sum (f : Nat → K) (s : Nat) (ys : List K) :
    dotFrom f s ys = sumRange ys.length (fun m => f (s + m) * ys.getD m 0) := by
  induction ys generalizing s with
  | nil => rfl
  | cons y ys ih =>
    rw [dotFrom, ih, List.length_cons, sumRange_succ']
    simp only [Nat.add_zero, List.getD_cons_zero, List.getD_cons_succ, Nat.add_assoc, Nat.add_comm 1]

/-- stage `k` holds the last `k` entries of the result -/
theorem backSubstAux_getD (U : Nat → Nat → K) (d : Nat → K) (n k r m : Nat) :
    (backSubstAux U d n (r + k)).getD (r + m) 0 = (backSubstAux U d n k).getD m 0 := by
  induction r with
  | zero => rw [Nat.zero_add, Nat.zero_add]
  | succ r ih => rw [Nat.add_right_comm r 1 k, backSubstAux, Nat.add_right_comm r 1 m, List.getD_cons_succ, ih]

/-- **the row equation**: `y_i = (d_i − Σ_{j>i} U_ij y_j) / U_ii` -/
theorem backSubst_row (U : Nat → Nat → K) (d : Nat → K) (n i : Nat) (hi : i < n) :
    (backSubst U d n).getD i 0
      = (d i - sumRange (n - (i + 1)) fun t => U i (i + 1 + t) * (backSubst U d n).getD (i + 1 + t) 0) / U i i := by
  obtain ⟨k, rfl⟩ := Nat.exists_eq_add_of_lt hi
  have e : i + k + 1 - (i + 1) = k := by rw [Nat.add_sub_add_right, Nat.add_sub_cancel_left]
  have e' : i + k + 1 - (k + 1) = i := Nat.add_sub_cancel i (k + 1)
  have h0 : (backSubstAux U d (i + k + 1) (i + k + 1)).getD i 0 = (backSubstAux U d (i + k + 1) (k + 1)).getD 0 0 :=
    backSubstAux_getD U d (i + k + 1) (k + 1) i 0
  have ht : ∀ t, (backSubstAux U d (i + k + 1) (i + k + 1)).getD (i + 1 + t) 0
      = (backSubstAux U d (i + k + 1) k).getD t 0 := fun t => by
    rw [Nat.add_right_comm i k 1, backSubstAux_getD]
  simp only [backSubst, e, h0, ht]
  rw [backSubstAux, List.getD_cons_zero, dotFrom_eq_sum, backSubstAux_length, e']

theorem matVec_upper (U : Nat → Nat → K) (x : Nat → K) (n : Nat) (htri : ∀ i j, j < i → U i j = 0) (i : Nat) (hi : i < n) :
    matVec n U x i = U i i * x i + sumRange (n - (i + 1)) fun t => U i (i + 1 + t) * x (i + 1 + t) := by
  obtain ⟨r, rfl⟩ := Nat.exists_eq_add_of_le hi
  rw [matVec, sumRange_split (i + 1) r, sumRange_succ, sumRange_eq_zero i _ fun j hj => by rw [htri i j hj, zero_mul],
    zero_add, Nat.add_sub_cancel_left]

/-- **Correctness of back substitution**: for upper-triangular `U` with non-zero diagonal,
    `U · backSubst U d n = d`. -/
theorem backSubst_correct (U : Nat → Nat → K) (d : Nat → K) (n : Nat)
    (hU : ∀ i, i < n → U i i ≠ 0) (htri : ∀ i j, j < i → U i j = 0) (i : Nat) (hi : i < n) :
    matVec n U (fun j => (backSubst U d n).getD j 0) i = d i := by
  rw [matVec_upper U _ n htri i hi, backSubst_row U d n i hi, mul_div_cancel₀ _ (hU i hi), sub_add_cancel]

theorem backSubst_unique (U : Nat → Nat → K) (d y : Nat → K) (n : Nat)
    (hU : ∀ i, i < n → U i i ≠ 0) (htri : ∀ i j, j < i → U i j = 0) (hy : ∀ i, i < n → matVec n U y i = d i)
    (i : Nat) (hi : i < n) : (backSubst U d n).getD i 0 = y i := by
  -- from the last row upwards
  induction i using Nat.strong_decreasing_induction with
  | base => exact ⟨n, fun m hm hi => absurd hi hm.not_gt⟩
  | step i ih =>
    have hs : (sumRange (n - (i + 1)) fun t => U i (i + 1 + t) * (backSubst U d n).getD (i + 1 + t) 0)
        = sumRange (n - (i + 1)) fun t => U i (i + 1 + t) * y (i + 1 + t) :=
      sumRange_congr _ _ _ fun t ht => by rw [ih _ (Nat.lt_add_right t i.lt_succ_self) (Nat.add_lt_of_lt_sub' ht)]
    rw [backSubst_row U d n i hi, hs, ← hy i hi, matVec_upper U y n htri i hi, add_sub_cancel_right,
      mul_div_cancel_left₀ _ (hU i hi)]

theorem backSubst_matVec (U : Nat → Nat → K) (x : Nat → K) (n : Nat)
    (hU : ∀ i, i < n → U i i ≠ 0) (htri : ∀ i j, j < i → U i j = 0) (i : Nat) (hi : i < n) :
    (backSubst U (matVec n U x) n).getD i 0 = x i :=
  backSubst_unique U _ x n hU htri (fun _ _ => rfl) i hi

theorem backSubstAux_linear (U : Nat → Nat → K) (d1 d2 : Nat → K) (a b : K) (n : Nat) :
    ∀ k m, (backSubstAux U (fun i => a * d1 i + b * d2 i) n k).getD m 0
      = a * (backSubstAux U d1 n k).getD m 0 + b * (backSubstAux U d2 n k).getD m 0 := by
  intro k
  induction k with
  | zero => intro m; simp [backSubstAux]
  | succ k ih =>
    intro m
    cases m with
    | succ m => simp only [backSubstAux, List.getD_cons_succ]; exact ih m
    | zero =>
      simp only [backSubstAux, List.getD_cons_zero, dotFrom_eq_sum, backSubstAux_length, ih, mul_add, mul_left_comm _ a,
        mul_left_comm _ b, sumRange_linear]
      ring

end PyAbel
