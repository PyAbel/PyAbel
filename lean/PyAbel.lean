-- root of the library: every model, lemma and property module (so `lake build PyAbel` builds all proofs)
import PyAbel.Model.Scalar
import PyAbel.Model.Img
import PyAbel.Model.Proto
import PyAbel.Model.Symmetry
import PyAbel.Model.Center
import PyAbel.Model.Pipeline
import PyAbel.Model.Dispatch
import PyAbel.Model.Linalg
import PyAbel.Model.Dasch
import PyAbel.Lemmas.RealInst
import PyAbel.Lemmas.Linalg
import PyAbel.Lemmas.ModelArith
import PyAbel.Gen.Wrappers
import PyAbel.Gen.Tables
import PyAbel.Gen.Effects
import PyAbel.Model.Cache
import PyAbel.Model.Npy
import PyAbel.Model.Origin
import PyAbel.Model.Polar
import PyAbel.Model.Distributions
import PyAbel.Model.Representations
import PyAbel.Model.RbasexImage
import PyAbel.Model.Polynomial
import PyAbel.Model.Effects
import PyAbel.Lemmas.Abel
import PyAbel.Props.C03
import PyAbel.Props.C04
import PyAbel.Props.C05
import PyAbel.Props.C06
import PyAbel.Props.C07
import PyAbel.Props.C07Names
import PyAbel.Props.C08
import PyAbel.Props.C09
import PyAbel.Props.C10
import PyAbel.Props.C12
import PyAbel.Props.C13
import PyAbel.Props.C14
import PyAbel.Props.C15
import PyAbel.Props.C15Mirror
import PyAbel.Props.C16
import PyAbel.Props.C17
import PyAbel.Props.C18
import PyAbel.Props.C19
import PyAbel.Props.C17Wrappers
import PyAbel.Props.C20
import PyAbel.Props.C01
import PyAbel.Props.C02
import PyAbel.Props.C11
import PyAbel.Props.C11Profiles
import PyAbel.Model.Recursions
import PyAbel.Model.Profiles
import PyAbel.Model.RbasexCache
import PyAbel.Props.C07Rbasex
import PyAbel.Model.BasexCache
import PyAbel.Props.C07Basex
import PyAbel.Lemmas.AbelFrac
import PyAbel.Model.RbasexBasis
import PyAbel.Props.C09Rbasex
import PyAbel.Props.C09Daun3
import PyAbel.Props.C09TwoPoint
import PyAbel.Props.C09ThreePoint
import PyAbel.Props.C09Basex
import PyAbel.Props.C07Daun
import PyAbel.Props.C01Dasch
import PyAbel.Props.C11Profile6
import PyAbel.Model.SPolyTerm
import PyAbel.Model.Window
import PyAbel.Model.Daun3
import PyAbel.Model.Basex
import PyAbel.Model.DaunCache
import PyAbel.Props.C10SPoly
import PyAbel.Props.C03Bases
import PyAbel.Props.C02Rbasex
import PyAbel.Props.C01Rbasex
import PyAbel.Props.C04Recursions
import PyAbel.Lemmas.AbelLinear
import PyAbel.Lemmas.AbelRamp
import PyAbel.Lemmas.AbelPoly
import PyAbel.Lemmas.PolyAbel
import PyAbel.Props.C12Frac
import PyAbel.Props.C12Explicit
import PyAbel.Props.C15Window
import PyAbel.Props.C10Adjoin
import PyAbel.Model.Grid
import PyAbel.Props.C02Grid
